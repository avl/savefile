/-
  Sfv.Driver.Main — one request per line on stdin, one reply per line on stdout.
  The driver never defaults on a malformed request: it answers `(bad-op …)`.
-/
import Sfv.Driver.Sexp
import Sfv.Driver.Nav
import Sfv.Driver.Io
import Sfv.Driver.CryptoIo
import Sfv.Driver.AbiIo
import Sfv.Model.Image
import Sfv.Model.Container
import Sfv.Model.Evolve
import Sfv.Model.SchemaDiff
import Sfv.Model.RealCodec
import Sfv.Model.SchemaOf
import Sfv.Model.SchemaWire
namespace Sfv

structure DState where
  env : TyEnv := []
  cfg : Cfg := {}
  scfg : SCfg := {}

/-- concrete conversion functions used by the type zoo (`savefile_versions_as`) -/
def zooConv : UserFns
  | 0, v => v                                   -- `From` widening between unsigned integers: same number
  | 1, .num n => .bytes (toString n).toUTF8.toList   -- u32 → String (decimal)
  | 2, .num n => .num (n + 1000)                -- u16 → u32, adds 1000
  | 3, .num n => .bytes (toString n).toUTF8.toList   -- u16 → String (decimal)
  | _, v => v

def showErrC : ErrC → String
  | .eof => "eof" | .utf8 => "utf8" | .general => "general" | .capacity => "capacity"
  | .badchar => "badchar" | .alloc => "alloc" | .timestamp => "timestamp" | .wrongVersion => "wrongversion"
def showSite : Site → String
  | .mulOverflow => "mul-overflow" | .sysTime => "systime" | .bulkBool => "bulk-bool"
  | .bulkChar => "bulk-char" | .bulkTag => "bulk-tag"
def showFail : Fail → String
  | .err c => "(err " ++ showErrC c ++ ")"
  | .panic s => "(panic " ++ showSite s ++ ")"
  | .ub s => "(ub " ++ showSite s ++ ")"
def showSaveFail : SaveFail → String
  | .removedAlive => "removed-alive" | .variantAbsent => "variant-absent" | .shape => "shape"

def showLoadErr : LoadErr → String
  | .eof => "(err eof)"
  | .notSavefile => "(err general)"
  | .futureLib => "(err general)"
  | .wrongVersion => "(err wrongversion)"
  | .schema => "(err schema)"
  | .payload f => showFail f
  | .schemaSection f => showFail f
  | .decompress => "(compressed)"

/-- schema section treated as opaque bytes supplied by the caller (used until the request carries
    a schema understood by `Sfv.Model.Schema`) -/
def opaqueSchema : SchemaCodec Bytes :=
  { encS := fun _ s => s, decS := fun _ bs => .ok ([], bs), compat := fun _ _ => true }

def listToWL : List W → WL
  | [] => .nil
  | t :: ts => .cons t (listToWL ts)

def wlToList : WL → List W
  | .nil => []
  | .cons t ts => t :: wlToList ts

instance : Inhabited W := ⟨.bool⟩

mutual
/-- flatten nested products (a one-field struct around a value has the bytes of the value) -/
partial def flatW : W → List W
  | .prod ts => flatWL ts
  | .seq _ t => [.seq {} (.prod (listToWL (flatW t)))]
  | .opt t => [.opt (.prod (listToWL (flatW t)))]
  | .res a b => [.res (.prod (listToWL (flatW a))) (.prod (listToWL (flatW b)))]
  | .rep n _ t => [.rep n none (.prod (listToWL (flatW t)))]
  | .tagged w alts => [.tagged w (listToWL ((wlToList alts).map (fun a => .prod (listToWL (flatW a)))))]
  | .str _ => [.str none]
  | .sysTime => [.fixed 16]
  | w => [w]
partial def flatWL : WL → List W
  | .nil => []
  | .cons t ts => flatW t ++ flatWL ts
end

def sameBytes (a b : W) : Bool :=
  let fa := flatW a
  let fb := flatW b
  -- `a` is the schema's grammar: it may know fewer (not yet alive) trailing variants than the reader `b`
  fa.length == fb.length && (fa.zip fb).all (fun (x, y) => wireEqv x y)

def parseBool : String → Option Bool
  | "true" => some true | "false" => some false | _ => none

def step (st : DState) (line : String) : DState × String :=
  match parseSx line with
  | none => (st, "(bad-op parse)")
  | some sx =>
    match sx with
    | .list [.atom "cfg", .atom k, .atom b] =>
      match k, parseBool b with
      | "sanity", some b => ({ st with cfg := { st.cfg with sanity := b } }, "(ok)")
      | "quirk-mul-overflow", some b => ({ st with cfg := { st.cfg with quirkMulOverflow := b } }, "(ok)")
      | "quirk-systime-panic", some b => ({ st with cfg := { st.cfg with quirkSysTimePanic := b } }, "(ok)")
      | _, _ =>
        match k, b.toNat? with
        | "vec-layout", some n => ({ st with scfg := { st.scfg with vecLayout := VLayout.ofCode n } }, "(ok)")
        | "string-layout", some n => ({ st with scfg := { st.scfg with strLayout := VLayout.ofCode n } }, "(ok)")
        | _, _ => (st, "(bad-op cfg)")
    | .list [.atom "def", .atom name, t] =>
      match parseTy st.env t with
      | some ty => ({ st with env := (name, ty) :: st.env }, "(ok)")
      | none => (st, "(bad-op def " ++ name ++ ")")
    | .list [.atom "enc", .atom name, .atom ver, v] =>
      match st.env.lookup name, ver.toNat?, parseV v with
      | some ty, some ver, some v =>
        match save ty ver v with
        | .ok b => (st, "(ok " ++ toHex b ++ ")")
        | .panic f => (st, "(panic " ++ showSaveFail f ++ ")")
        | .unencodable => (st, "(unenc)")
      | _, _, _ => (st, "(bad-op enc)")
    | .list [.atom "dec", .atom name, .atom ver, .atom hex] =>
      match st.env.lookup name, ver.toNat?, parseHex hex with
      | some ty, some ver, some bs =>
        match load st.cfg zooConv ty ver bs with
        | .ok (v, r) => (st, "(ok " ++ showTV ty v ++ " " ++ toString r.length ++ ")")
        | .error f => (st, showFail f)
      | _, _, _ => (st, "(bad-op dec)")
    | .list [.atom "file", .atom kind, .atom name, .atom ver, v, .atom schemaHex] =>
      match st.env.lookup name, ver.toNat?, parseV v, parseHex schemaHex with
      | some ty, some ver, some v, some sb =>
        let schema : Option Bytes := if kind == "plain" then some sb else none
        match saveFile opaqueSchema schema ty ver v with
        | .ok b => (st, "(ok " ++ toHex b ++ ")")
        | .panic f => (st, "(panic " ++ showSaveFail f ++ ")")
        | .unencodable => (st, "(unenc)")
      | _, _, _, _ => (st, "(bad-op file)")
    | .list [.atom "loadfile", .atom "noschema", .atom name, .atom memver, .atom hex] =>
      match st.env.lookup name, memver.toNat?, parseHex hex with
      | some ty, some memver, some bs =>
        match loadFile st.cfg zooConv opaqueSchema none ty memver bs with
        | .ok (v, r) => (st, "(ok " ++ showTV ty v ++ " " ++ toString r.length ++ ")")
        | .error e => (st, showLoadErr e)
      | _, _, _ => (st, "(bad-op loadfile)")
    | .list [.atom "rfault", .atom "noschema", .atom name, .atom memver, .atom hex, .atom off] =>
      -- a reader that fails for good once `off` bytes went through: the loader reports the I/O error iff
      -- it needs a byte at or beyond `off` (on the prefix it runs out of data), else it behaves as on the prefix
      match st.env.lookup name, memver.toNat?, parseHex hex, off.toNat? with
      | some ty, some memver, some bs, some off =>
        match loadFile st.cfg zooConv opaqueSchema none ty memver (bs.take off) with
        | .ok (v, _) => (st, "(ok " ++ showTV ty v ++ ")")
        | .error e => (st, if showLoadErr e == "(err eof)" then "(err io)" else showLoadErr e)
      | _, _, _, _ => (st, "(bad-op rfault)")
    | .list [.atom "wsave", .list (.atom "ops" :: ops), .list (.atom "log" :: log)] =>
      match wsaveRequest ops log with
      | some r => (st, r)
      | none => (st, "(bad-op wsave)")
    | .list [.atom "abicall", .atom ti, .atom tj, .atom i, .atom j, .list args, .list rets] =>
      -- a call from interface version i to an implementation of version j: every value crosses the boundary
      -- in the format of version min(i, j)
      match st.env.lookup ti, st.env.lookup tj, i.toNat?, j.toNat?, args.mapM parseV, rets.mapM parseV with
      | some tyI, some tyJ, some i, some j, some args, some rets =>
        let k := min i j
        let xfer (w r : Ty) (x : V) : String :=
          match save w k x with
          | .ok bs =>
            match load st.cfg zooConv r k bs with
            | .ok (v, rest) => if rest.isEmpty then showTV r v else "(trailing " ++ toString rest.length ++ ")"
            | .error f => showFail f
          | .panic f => "(panic " ++ showSaveFail f ++ ")"
          | .unencodable => "(unenc)"
        (st, "(ok (" ++ " ".intercalate (args.map (xfer tyI tyJ)) ++ ") (" ++ " ".intercalate (rets.map (xfer tyJ tyI)) ++ "))")
      | _, _, _, _, _, _ => (st, "(bad-op abicall)")
    | .list [.atom "smem", .atom sh, .atom name, .atom ver, v, .atom memHex] =>
      -- does the memory of a value agree with the image its (real) schema prescribes, where the schema claims
      -- a complete layout (it is layout compatible with itself)
      match parseHex sh, st.env.lookup name, ver.toNat?, parseV v, parseHex memHex with
      | some sb, some ty, some ver, some v, some mem =>
        match decSchema st.cfg 2 (sb.length + 1) sb with
        | .ok (s, _) =>
          if !layoutCompatible s s then (st, "(ok no-layout)")
          else
            match proj ty ver v with
            | .ok wv =>
              match imgAt 0 s wv with
              | some img =>
                match img.find? (fun (a, b) => mem[a]? != some b) with
                | none => (st, if schemaSize s == some mem.length then "(ok holds)" else "(ok size-mismatch)")
                | some (a, b) => (st, "(ok mismatch at " ++ toString a ++ " schema-says " ++ toString b.toNat ++ " memory-has "
                    ++ (match mem[a]? with | some m => toString m.toNat | none => "nothing") ++ ")")
              | none => (st, "(ok image-undetermined)")
            | .error _ => (st, "(ok unprojectable)")
        | .error _ => (st, "(bad-op smem-undecodable)")
      | _, _, _, _, _ => (st, "(bad-op smem)")
    | .list [.atom "smemh", .atom sh, .atom name, .atom ver, v, .atom baseS, .atom objHex, .list segs] =>
      -- the same with the heap: the object's bytes at their real address and what the words of the object that
      -- look like pointers lead to; `holdsAt` follows the headers of collections whose layout the schema records
      match parseHex sh, st.env.lookup name, ver.toNat?, parseV v, baseS.toNat?, parseHex objHex with
      | some sb, some ty, some ver, some v, some base, some obj =>
        let parseSeg : Sx → Option (Nat × ByteArray) := fun x =>
          match x with
          | .list [.atom a, .atom h] =>
            match a.toNat?, parseHex h with
            | some a, some b => some (a, ByteArray.mk b.toArray)
            | _, _ => none
          | _ => none
        match segs.mapM parseSeg, decSchema st.cfg 2 (sb.length + 1) sb with
        | some segs, .ok (s, _) =>
          if !layoutCompatible s s then (st, "(ok no-layout)")
          else
            match proj ty ver v with
            | .ok wv =>
              let all := (base, ByteArray.mk obj.toArray) :: segs
              let mem : Mem := fun a =>
                all.findSome? (fun (seg : Nat × ByteArray) => if seg.1 ≤ a ∧ a < seg.1 + seg.2.size then some (seg.2.get! (a - seg.1)) else none)
              (st, if holdsAt mem base s wv then "(ok holds)" else "(ok memory-is-not-what-the-schema-prescribes)")
            | .error _ => (st, "(ok unprojectable)")
        | _, _ => (st, "(bad-op smemh-undecodable)")
      | _, _, _, _, _, _ => (st, "(bad-op smemh)")
    | .list [.atom "ext", .atom writer, .atom reader, .atom ver] =>
      -- hypothesis of c03_upgrade / c18_downgrade: everything the writer's grammar at `ver` encodes is
      -- encoded identically by the reader's grammar at `ver`
      match st.env.lookup writer, st.env.lookup reader, ver.toNat? with
      | some a, some b, some ver => (st, "(ok " ++ toString (encExt (saveWire a ver) (wireOf b ver)) ++ ")")
      | _, _, _ => (st, "(bad-op ext)")
    | .list [.atom "decschema", .atom ver, .atom hex] =>
      match ver.toNat?, parseHex hex with
      | some ver, some bs =>
        match decSchema st.cfg ver (bs.length + 1) bs with
        | .ok (s, r) => (st, "(ok " ++ toHex (encSchema 2 s) ++ " " ++ toString r.length ++ ")")
        | .error f => (st, showFail f)
      | _, _ => (st, "(bad-op decschema)")
    | .list [.atom "diff", .atom ha, .atom hb, .atom rp] =>
      match parseHex ha, parseHex hb, parseBool rp with
      | some ba, some bb, some rp =>
        match decSchema st.cfg 2 (ba.length + 1) ba, decSchema st.cfg 2 (bb.length + 1) bb with
        | .ok (a, _), .ok (b, _) =>
          match diff a b rp with
          | .same => (st, "(ok same)")
          | .differ => (st, "(ok differ)")
          | .panicFuture => (st, "(panic future)")
        | _, _ => (st, "(bad-op diff-undecodable)")
      | _, _, _ => (st, "(bad-op diff)")
    | .list [.atom "laycompat", .atom ha, .atom hb] =>
      match parseHex ha, parseHex hb with
      | some ba, some bb =>
        match decSchema st.cfg 2 (ba.length + 1) ba, decSchema st.cfg 2 (bb.length + 1) bb with
        | .ok (a, _), .ok (b, _) => (st, "(ok " ++ toString (layoutCompatible a b) ++ ")")
        | _, _ => (st, "(bad-op laycompat-undecodable)")
      | _, _ => (st, "(bad-op laycompat)")
    | .list [.atom "loadfile", .atom "plain", .atom name, .atom memver, .atom hex, .atom expHex] =>
      match st.env.lookup name, memver.toNat?, parseHex hex, parseHex expHex with
      | some ty, some memver, some bs, some eb =>
        match decSchema st.cfg 2 (eb.length + 1) eb with
        | .ok (exp, _) =>
          match loadFile st.cfg zooConv (realSchemaCodec st.cfg) (some (fun _ => exp)) ty memver bs with
          | .ok (v, r) => (st, "(ok " ++ showTV ty v ++ " " ++ toString r.length ++ ")")
          | .error e => (st, showLoadErr e)
        | .error _ => (st, "(bad-op loadfile-expected-undecodable)")
      | _, _, _, _ => (st, "(bad-op loadfile-plain)")
    | .list [.atom "xload", .atom writer, .atom reader, .atom ver] =>
      -- must the gate reject? yes if the two types do not even describe the same bytes at `ver`
      match st.env.lookup writer, st.env.lookup reader, ver.toNat? with
      | some a, some b, some ver =>
        -- … or if the gate itself, on the schemas the two types have at `ver` (names of variants, discriminants),
        -- reports a difference
        let gateSame := match diff (schemaOf st.scfg a ver []) (schemaOf st.scfg b ver []) false with
          | .same => true
          | _ => false
        (st, if wireEqv (saveWire a ver) (wireOf b ver) && gateSame then "(ok free)" else "(ok must-reject)")
      | _, _, _ => (st, "(bad-op xload)")
    | .list [.atom "schema", .atom name, .atom ver] =>
      match st.env.lookup name, ver.toNat? with
      | some ty, some ver => (st, "(ok " ++ toHex (encSchema 2 (schemaOf st.scfg ty ver [])) ++ ")")
      | _, _ => (st, "(bad-op schema)")
    | .list [.atom "faithful", .atom name, .atom ver] =>
      -- does the schema, read as a grammar, describe the same bytes as the writer's grammar?
      match st.env.lookup name, ver.toNat? with
      | some ty, some ver =>
        match schemaWire (schemaOf st.scfg ty ver []) with
        | some w => (st, "(ok " ++ toString (sameBytes w (erase (wireOf ty ver))) ++ ")")
        | none => (st, "(ok false)")
      | _, _ => (st, "(bad-op faithful)")
    | .list [.atom "parse", .atom sh, .atom bh] =>
      match parseHex sh, parseHex bh with
      | some sb, some bs =>
        match decSchema st.cfg 2 (sb.length + 1) sb with
        | .ok (s, _) =>
          match parse st.cfg s bs with
          | some (.ok (v, r)) => (st, "(ok " ++ showV v ++ " " ++ toString r.length ++ ")")
          | some (.error f) => (st, showFail f)
          | none => (st, "(unparseable)")
        | .error _ => (st, "(bad-op parse-undecodable)")
      | _, _ => (st, "(bad-op parse)")
    | .list [.atom "packed", .atom name, .atom ver] =>
      match st.env.lookup name, ver.toNat? with
      | some ty, some ver => (st, "(ok " ++ toString (isPacked ty ver) ++ ")")
      | _, _ => (st, "(bad-op packed)")
    | .list [.atom "canon", .atom name, v] =>
      -- canonical print of a value (type-directed sorting), used by the harness self-test
      match st.env.lookup name, parseV v with
      | some ty, some v => (st, "(ok " ++ showTV ty v ++ ")")
      | _, _ => (st, "(bad-op canon)")
    | sx =>
      match navRequest sx with
      | some r => (st, r)
      | none =>
        match decstreamRequest sx with
        | some r => (st, r)
        | none =>
          match connectRequest st.cfg sx with
          | some r => (st, r)
          | none =>
            match ledgerRequest st.cfg sx with
            | some r => (st, r)
            | none =>
              match cwprogRequest sx with
              | some r => (st, r)
              | none => (st, "(bad-op unknown)")

partial def loop (h : IO.FS.Stream) (out : IO.FS.Stream) (st : DState) : IO Unit := do
  let line ← h.getLine
  if line.isEmpty then return ()
  let l := line.trimAscii.toString
  if l.isEmpty then
    loop h out st
  else
    let (st', reply) := step st l
    out.putStrLn reply
    loop h out st'

end Sfv

def main : IO Unit := do
  let stdin ← IO.getStdin
  let stdout ← IO.getStdout
  Sfv.loop stdin stdout {}
