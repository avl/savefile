/-
  Sfv.Props.C14 — Encrypted files load only when intact and with the right password.

  AES-256-GCM is a parameter (`Aead`); what is assumed of it is `Ideal A prod`, relative to the list `prod` of
  everything sealed under the key: what was sealed opens to its plaintext and carries a 16 byte tag; nothing
  else opens (integrity of ciphertexts); ciphertexts sealed under different nonces differ.  That each nonce is
  used once is *proved* for the writer's nonce sequence (`c14_nonce_once`).  The loader is an arbitrary reader
  program `p` (C08).

  `c14_intact`          : the stream `CryptoWriter` emits decrypts to exactly what was written, ending cleanly;
                          the loader behaves as on the plaintext
  `c14_tampered_stream` : after replacing any one stored byte by another value, or cutting the stream anywhere,
                          only the plaintext of the frames before the damage authenticates
  `c14_tampered_load`   : hence a loader that, on the intact plaintext, read into the last frame, reports an
                          I/O error — never a value
  `c14_tampered_written`: for any write/flush program on a `CryptoWriter` and a loader that consumes exactly the
                          written plaintext, every cut or change of the stream fails the load (no empty frames)
  `c14_damaged_load`    : the same for *any* damage behind an intact nonce header (bytes changed, frames exchanged,
                          replayed, removed or inserted), not only one byte or a cut
  `c14_position_binding_partial` : finding D25 — with the stored nonce replaced by its successor and the first frame
                          removed, everything that is left authenticates: the format does not bind frames to the stream
  `c14_wrong_password`  : under a key nothing was sealed with, no frame opens: the loader gets no plaintext
  `c14_partial`         : the hypothesis "the loader read into the last frame" is needed (a loader that stops
                          earlier cannot notice that the last frame is gone).  For savefile it is checked per
                          file by the correspondence: the payload is bzip2-compressed and flushed before the end
                          of the compressed stream is written, so the last frame holds the final bits of the
                          data block; every saved file is cut at the start of its last frame and must not load.
-/
import Sfv.Lemmas.Crypto
namespace Sfv

theorem c14_intact {α : Type} (A : Aead) (prod) (hI : Ideal A prod) (n0 : NonceSeq) (hn : n0.wf) (ws : List Bytes)
    (hp : ∀ e ∈ produced A n0 (CW.chunks [] ws), e ∈ prod) (p : RP α) :
    decStream A (opsBytes (cryptoWriterOps A n0 ws)) = (ws.flatten, .clean)
    ∧ p.runTerm (decStream A (opsBytes (cryptoWriterOps A n0 ws))).1 (decStream A (opsBytes (cryptoWriterOps A n0 ws))).2
        = (p.runWhole ws.flatten).1 := by
  obtain ⟨h1, h2⟩ := CW.chunks_spec ws []
  rw [cryptoWriterOps_spec, decStream_encStream A prod hI n0 hn _ hp (fun c h => (h2 c h).2), h1]
  exact ⟨rfl, RP.runTerm_clean p _⟩

theorem c14_tampered_stream (A : Aead) (prod) (hI : Ideal A prod) (n0 : NonceSeq) (hn : n0.wf) (chunks : List Bytes)
    (hne : chunks ≠ []) (hp : ∀ e ∈ produced A n0 chunks, e ∈ prod) (hc : ∀ c ∈ chunks, c ≠ [] ∧ c.length ≤ cryptoBuf)
    (d : Bytes) (ht : Tampered (encStream A n0 chunks) d) :
    ∃ j, j < chunks.length ∧ (decStream A d).1 = (chunks.take j).flatten := by
  rcases ht.append with ⟨nb, htn, ⟨rfl, hlt⟩ | ⟨rfl, hl⟩⟩ | ⟨x, htx, rfl⟩
  · -- cut inside the nonce: `CryptoReader::new` fails
    exact ⟨0, List.length_pos_iff.mpr hne, by rw [decStream, if_pos (n0.bytes_length ▸ hlt)]; rfl⟩
  · -- a different nonce of the same length: the first frame was sealed under another one
    obtain ⟨c, cs, rfl⟩ := List.exists_cons_of_ne_nil hne
    have hl12 := hl.trans n0.bytes_length
    refine ⟨0, Nat.succ_pos _, ?_⟩
    rw [decStream_append A nb _ hl12]
    refine decFrames_other_nonce A prod hI n0 _ c cs (fun e => htn.ne ?_) (hp _ List.mem_cons_self)
      (hc c List.mem_cons_self).2 _
    rw [← parsedNonce_bytes nb _ hl12, NonceSeq.advance_inj _ _ (parsedNonce_wf _) hn e]
  · exact decStream_damaged A prod hI n0 hn chunks hp x htx.not_prefix

theorem length_le_flatten : ∀ (l : List Bytes) (x : Bytes), x ∈ l → x.length ≤ l.flatten.length :=
  fun _ _ h => (List.sublist_flatten_of_mem h).length_le

theorem take_flatten_bound : ∀ (chunks : List Bytes) (j : Nat) (last : Bytes), j < chunks.length →
    chunks.getLast? = some last → ((chunks.take j).flatten).length + last.length ≤ chunks.flatten.length := by
  intro chunks j last hj hl
  have hm : last ∈ chunks.drop j :=
    List.mem_of_getLast? (by rw [List.getLast?_drop, if_neg (Nat.not_le_of_lt hj), hl])
  have e : chunks.flatten.length = (chunks.take j).flatten.length + (chunks.drop j).flatten.length := by
    rw [← List.length_append, ← List.flatten_append, List.take_append_drop]
  rw [e]
  exact Nat.add_le_add_left (length_le_flatten _ _ hm) _

theorem c14_tampered_load {α : Type} (A : Aead) (prod) (hI : Ideal A prod) (n0 : NonceSeq) (hn : n0.wf)
    (chunks : List Bytes) (last : Bytes) (hlast : chunks.getLast? = some last)
    (hp : ∀ e ∈ produced A n0 chunks, e ∈ prod) (hc : ∀ c ∈ chunks, c ≠ [] ∧ c.length ≤ cryptoBuf)
    (p : RP α) (a : α) (rest : Bytes)
    (hload : p.runWhole chunks.flatten = (.val a, rest)) (hinto : rest.length < last.length)
    (d : Bytes) (ht : Tampered (encStream A n0 chunks) d) :
    ∃ e, p.runTerm (decStream A d).1 (decStream A d).2 = .io e := by
  obtain ⟨j, hj, hP⟩ := c14_tampered_stream A prod hI n0 hn chunks (List.ne_nil_of_mem (List.mem_of_getLast? hlast)) hp hc d ht
  rw [hP]
  exact RP.fails_on_fewer_chunks p chunks j a rest _ hload
    (Nat.lt_of_lt_of_le (Nat.add_lt_add_left hinto _) (take_flatten_bound chunks j last hj hlast))

theorem c14_wrong_password {α : Type} (A' : Aead) (hnone : ∀ nv c, A'.openF nv c = none) (A : Aead) (n0 : NonceSeq)
    (chunks : List Bytes) (hne : chunks ≠ []) (hc : ∀ c ∈ chunks, c.length ≤ cryptoBuf)
    (hseal : ∀ nv c, (A.sealF nv c).length = c.length + tagLen)
    (p : RP α) (a : α) (rest : Bytes) (hload : p.runWhole chunks.flatten = (.val a, rest))
    (hsome : rest.length < chunks.flatten.length) :
    ∃ e, p.runTerm (decStream A' (encStream A n0 chunks)).1 (decStream A' (encStream A n0 chunks)).2 = .io e := by
  obtain ⟨h1, _⟩ := decStream_wrong_key A' hnone A n0 chunks hne hc hseal
  rw [h1]
  exact RP.prefix_fails p chunks.flatten [] rest _ a hload (by simpa using hsome) List.nil_prefix

/-- **Every byte a `CryptoWriter` program puts out is protected**, the tail included: for any program of writes
    and flushes (flushes of an empty buffer included) that wrote at least one byte, and any loader that on the
    intact plaintext consumes exactly what was written (`rest = []`, which the correspondence checks for
    `savefile::load` on every saved file), every cut of the stream and every change of one stored byte makes the
    loader fail.  What carries the proof is that the writer never seals an empty chunk (`CW.chunksProg_spec`): an
    empty final frame would never be requested by the reader and so never authenticated.  The chunking of the real
    writer is compared with `CW.chunksProg` on write/flush programs around the chunk size (suite `cwprog`). -/
theorem c14_tampered_written {α : Type} (A : Aead) (prod) (hI : Ideal A prod) (n0 : NonceSeq) (hn : n0.wf)
    (prog : List CWOp) (hp : ∀ e ∈ produced A n0 (CW.chunksProg [] prog), e ∈ prod)
    (hne : CW.written prog ≠ [])
    (p : RP α) (a : α) (hload : p.runWhole (CW.written prog) = (.val a, []))
    (d : Bytes) (ht : Tampered (opsBytes (cryptoWriterProgOps A n0 prog)) d) :
    ∃ e, p.runTerm (decStream A d).1 (decStream A d).2 = .io e := by
  obtain ⟨h1, h2⟩ := CW.chunksProg_spec prog []
  rw [cryptoWriterProgOps_spec] at ht
  cases hlast : (CW.chunksProg [] prog).getLast? with
  | none => rw [List.getLast?_eq_none_iff.mp hlast] at h1; exact absurd h1.symm hne
  | some last =>
    exact c14_tampered_load A prod hI n0 hn _ last hlast hp h2 p a [] (h1 ▸ hload)
      (List.length_pos_iff.mpr (h2 last (List.mem_of_getLast? hlast)).1) d ht

/-- the hypotheses of `c14_tampered_written` are satisfiable: one write, a loader that reads it whole -/
example : CW.written [.write [1, 2, 3], .flush, .flush] ≠ []
    ∧ (RP.read 3 (fun b => RP.ret b.length)).runWhole (CW.written [.write [1, 2, 3], .flush, .flush]) = (.val 3, []) :=
  ⟨by simp [CW.written], rfl⟩

/-- **Any** damage behind an intact nonce header — several bytes changed, frames exchanged, replayed, removed or
    inserted, data cut — not only one byte or a cut: unless the original frames are all still there in front, a
    loader that on the intact plaintext read into the last frame fails. -/
theorem c14_damaged_load {α : Type} (A : Aead) (prod) (hI : Ideal A prod) (n0 : NonceSeq) (hn : n0.wf)
    (chunks : List Bytes) (last : Bytes) (hlast : chunks.getLast? = some last)
    (hp : ∀ e ∈ produced A n0 chunks, e ∈ prod) (hc : ∀ c ∈ chunks, c ≠ [] ∧ c.length ≤ cryptoBuf)
    (p : RP α) (a : α) (rest : Bytes)
    (hload : p.runWhole chunks.flatten = (.val a, rest)) (hinto : rest.length < last.length)
    (x : Bytes) (hx : ¬ (framesBytes A n0 chunks <+: x)) :
    ∃ e, p.runTerm (decStream A (n0.bytes ++ x)).1 (decStream A (n0.bytes ++ x)).2 = .io e := by
  obtain ⟨j, hj, hP⟩ := decStream_damaged A prod hI n0 hn chunks hp x hx
  rw [hP]
  exact RP.fails_on_fewer_chunks p chunks j a rest _ hload
    (Nat.lt_of_lt_of_le (Nat.add_lt_add_left hinto _) (take_flatten_bound chunks j last hj hlast))

/-- what the stored data must not be for `c14_damaged_load`: the original frames followed by anything.  Exchanging
    the two frames of a two-frame stream is damage in this sense. -/
example (A : Aead) (n : NonceSeq) (a b : Bytes) (h : framesBytes A n [a, b] ≠ framesBytes A n [b, a])
    (hl : (framesBytes A n [a, b]).length = (framesBytes A n [b, a]).length) :
    ¬ (framesBytes A n [a, b] <+: framesBytes A n [b, a]) := by
  intro hp
  exact h (hp.eq_of_length hl)

/-- **The limit of the format (finding D25).**  A frame is bound to its position only through the nonce counter, and
    the counter's start is stored in the clear in front of the frames.  Storing the next counter value and removing
    the first frame gives a stream in which every remaining frame authenticates: it decrypts, with a clean end, to
    the plaintext without its first chunk.  `c14_damaged_load` therefore needs its intact-header hypothesis, and
    "any modification yields an error" is false of multi-frame streams whose plaintext makes sense from the second
    chunk on (shown on the real code by the `cwprog` suite). -/
theorem c14_position_binding_partial (A : Aead) (prod) (hI : Ideal A prod) (n0 : NonceSeq) (hn : n0.wf) (c : Bytes) (cs : List Bytes)
    (hp : ∀ e ∈ produced A n0 (c :: cs), e ∈ prod) (hc : ∀ c' ∈ c :: cs, c' ≠ [] ∧ c'.length ≤ cryptoBuf) :
    decStream A (n0.advance.bytes ++ framesBytes A n0.advance cs) = (cs.flatten, .clean) :=
  decStream_encStream A prod hI n0.advance (n0.advance_wf hn) cs
    (fun e he => hp e (List.mem_cons_of_mem _ he)) (fun c' hc' => (hc c' (List.mem_cons_of_mem _ hc')).2)

/-- the writer uses each nonce once (fewer than 2^96 frames per stream) -/
theorem c14_nonce_once (A : Aead) (chunks : List Bytes) (n : NonceSeq) (hn : n.wf) (hl : chunks.length < 2 ^ 96) :
    ∀ e ∈ produced A n chunks, ∀ e' ∈ produced A n chunks, e.1 = e'.1 → e = e' := by
  induction chunks generalizing n with
  | nil => nofun
  | cons c cs ih =>
    -- the later nonces are the counter values `(n.advance.cnt + j) % 2 ^ 96` with `1 ≤ j < 2 ^ 96 - 1`: none is `n.advance.cnt`
    have tail : ∀ x ∈ produced A n.advance cs, x.1 ≠ n.advance.val := by
      intro x hx hxe
      obtain ⟨m, h1, j, hj1, hj2, hj3⟩ := produced_cnt A cs n.advance (n.advance_wf hn) x hx
      cases NonceSeq.val_inj (h1.symm.trans hxe)
      rw [List.length_cons] at hl
      omega
    intro e he e' he' heq
    rcases List.mem_cons.mp he with rfl | he <;> rcases List.mem_cons.mp he' with rfl | he'
    · rfl
    · exact absurd heq.symm (tail _ he')
    · exact absurd heq (tail _ he)
    · exact ih n.advance (n.advance_wf hn) (Nat.lt_of_succ_lt hl) e he e' he' heq

/-- `c14_tampered_load` needs its hypothesis: a loader that does not read into the last frame does not
    notice that the frame is gone -/
theorem c14_partial : ∃ (p : RP Nat) (P' : Bytes), p.runWhole ([1, 2] ++ [3]) = (.val 7, [3]) ∧ P' = [1, 2]
    ∧ p.runTerm P' .clean = .val 7 :=
  ⟨.read 2 (fun _ => .ret 7), [1, 2], rfl, rfl, rfl⟩

end Sfv
