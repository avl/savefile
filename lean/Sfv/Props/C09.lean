/-
  Sfv.Props.C09 — ABI calls are transparent: same effect as calling the implementation directly.

  What is logic is proved; the generated trampolines themselves are exercised, not modelled line by line
  (see the `abivals`, `abicall` suites: every operation through a connection is compared with the direct call).

  `c09_flexbuffer`          : whatever the sizes of the pieces written — below, at or across the 64 byte inline
                              limit — the buffer handed to the other side is the concatenation of the pieces
  `c09_value_transfer`      : a value written at the negotiated version and read back by the same definition is
                              the value (C01's round trip at the connection's version): arguments and returns
  `c09_by_ref_same_image`   : an argument passed by reference has the same prescribed memory image on both sides (C11)
  `c09_panic_message`       : a literal or formatted panic message reaches the caller verbatim, given the payload
                              types the entry point recognises (`c09_constants`: `&str` and `String`, from the source)
  `c09_dropped_exactly_once`: a trait object that crossed the boundary — moved or lent — is destroyed exactly once,
                              given the ownership the macro assigns (`c09_constants`: owned iff `take_ownership`)
-/
import Sfv.Model.AbiCall
import Sfv.Generated.AbiCall
import Sfv.Generated.Abi
import Sfv.Lemmas.Evolve
import Sfv.Props.C11
namespace Sfv

theorem c09_constants :
    Generated.entryKnowsStrPayload = true ∧ Generated.entryKnowsStringPayload = true
    ∧ Generated.ownedIffTakeOwnership = true ∧ Generated.dropInstanceIffOwned = true
    ∧ Generated.flexBufferSize = some 64 := by
  decide

theorem flex_write_ok (f : Flex) (buf : Bytes) (h : f.Ok) : (f.write buf).Ok ∧ (f.write buf).contents = f.contents ++ buf
    ∧ (f.write buf).len = f.len + buf.length := by
  cases f with
  | stack pos data =>
    obtain ⟨h1, h2⟩ := h
    subst h1
    simp only [Flex.write]
    split
    · rename_i hle
      exact ⟨⟨by simp, hle⟩, by simp [Flex.contents, List.take_of_length_le], rfl⟩
    · exact ⟨trivial, by simp [Flex.contents], by simp [Flex.len]⟩
  | spill v => exact ⟨trivial, rfl, by simp [Flex.write, Flex.len]⟩

theorem c09_flexbuffer (pieces : List Bytes) :
    (pieces.foldl Flex.write Flex.new).contents = pieces.flatten
    ∧ (pieces.foldl Flex.write Flex.new).len = pieces.flatten.length := by
  have gen : ∀ (ps : List Bytes) (f : Flex), f.Ok →
      (ps.foldl Flex.write f).contents = f.contents ++ ps.flatten ∧ (ps.foldl Flex.write f).len = f.len + ps.flatten.length := by
    intro ps
    induction ps with
    | nil => exact fun f _ => ⟨(List.append_nil _).symm, rfl⟩
    | cons p ps ih =>
      intro f hf
      obtain ⟨h1, h2, h3⟩ := flex_write_ok f p hf
      obtain ⟨g1, g2⟩ := ih (f.write p) h1
      rw [List.foldl_cons, g1, g2, h2, h3, List.flatten_cons, List.append_assoc, List.length_append, Nat.add_assoc]
      exact ⟨rfl, rfl⟩
  obtain ⟨g1, g2⟩ := gen pieces Flex.new ⟨rfl, Nat.zero_le _⟩
  exact ⟨g1, g2.trans (Nat.zero_add _)⟩

/-- the inline form is used exactly while everything fits in 64 bytes -/
example : (([List.replicate 60 0, List.replicate 4 1] : List Bytes).foldl Flex.write Flex.new) = .stack 64 (List.replicate 60 0 ++ List.replicate 4 1) := by
  rfl
example : (([List.replicate 60 0, List.replicate 5 1] : List Bytes).foldl Flex.write Flex.new) = .spill (List.replicate 60 0 ++ List.replicate 5 1) := by
  rfl

theorem c09_value_transfer (cfg : Cfg) (env : UserFns) (T : Ty) (k : Nat) (x wv : V) (bs r : Bytes)
    (hext : encExt (saveWire T k) (wireOf T k) = true)
    (hp : proj T k x = .ok wv) (hs : save T k x = .ok bs)
    (hw : wfW (wireOf T k) = true) (hl : lim cfg (wireOf T k) wv = true) :
    load cfg env T k (bs ++ r) = .ok (fill env T k wv, r) :=
  load_save cfg env T T k x wv bs r hext hp hs hw hl

theorem c09_by_ref_same_image (retPos : Option Bool) (a b ea eb : Schema) (rp : Bool) (h : plainKind a = true)
    (hok : argLayoutCompatible retPos a b ea eb rp = .ok true) (base : Nat) (x : V) :
    imgAt base a x = imgAt base b x :=
  (c11_by_ref_sound retPos a b ea eb rp h hok).1.2 base x

theorem c09_panic_message (s : String) :
    panicMessage true true (.lit s) = some s ∧ panicMessage true true (.fmt s) = some s := ⟨rfl, rfl⟩

/-- without the `String` downcast a formatted message is lost (the pinned behaviour, repaired) -/
example (s : String) : panicMessage true false (.fmt s) = none := rfl

theorem c09_dropped_exactly_once (p : Passing) : destroyed p = 1 := by cases p <;> rfl

end Sfv
