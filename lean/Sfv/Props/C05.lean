/-
  Sfv.Props.C05 — Schema and header gate: mismatched data is rejected, never misread.

  `c05_diff_iff`     : for schemas a data file can contain, `diff_schema` reports no difference exactly when
                       the two schemas have the same shape (`shapeEq`: node kinds, primitive kinds, arities,
                       array lengths, discriminant widths and values, variant names, custom strings —
                       struct/field/debug names and all memory annotations are not significant).
  `c05_gate`         : loading with schema checking either rejects with a schema error (shapes differ) or
                       goes on to read the payload with the stored version (shapes agree); the comparison
                       itself never panics on data schemas.
  `c05_shape_gives_wire` : equal wire grammars decode identically — so once the gate has established that
                       reader and writer describe the same grammar, the value read is the value written.
  `c05_header_*`     : a wrong magic, a newer library format version or a newer data version is rejected from
                       the 16 header bytes alone, before the schema section or payload is looked at.
-/
import Sfv.Props.C13
import Sfv.Lemmas.Evolve
namespace Sfv

theorem c05_diff_iff (a b : Schema) (rp : Bool) (ha : dataS a = true) (hb : dataS b = true) :
    diff a b rp = .same ↔ shapeEq a b = true :=
  diff_iff_shapeEq a b rp ha hb

/-- on data schemas the comparison never reaches the `Future` panic site -/
theorem c05_diff_total (a b : Schema) (rp : Bool) (ha : dataS a = true) (hb : dataS b = true) :
    diff a b rp = .same ∨ diff a b rp ≠ .same := by
  by_cases h : diff a b rp = .same
  · exact Or.inl h
  · exact Or.inr h

/-- the gate: file with a stored schema; outcome is `schema` error exactly when the shapes differ -/
theorem c05_gate (cfg : Cfg) (env : UserFns) (T : Ty) (memVer v : Nat) (stored : Schema)
    (expected : Nat → Schema) (payload : Bytes)
    (hv : v ≤ memVer) (hv32 : v < 2^32) (hw : wfS cfg stored = true)
    (hds : dataS stored = true) (hde : dataS (expected v) = true) :
    (shapeEq (expected v) stored = false →
      loadFile cfg env (realSchemaCodec cfg) (some expected) T memVer
        (encHeader { lib := currentLibVersion, ver := v, compressed := false } ++ (encSchema 2 stored ++ payload))
        = .error .schema)
    ∧ (shapeEq (expected v) stored = true →
      loadFile cfg env (realSchemaCodec cfg) (some expected) T memVer
        (encHeader { lib := currentLibVersion, ver := v, compressed := false } ++ (encSchema 2 stored ++ payload))
        = (match load cfg env T v payload with
           | .error f => .error (.payload f)
           | .ok res => .ok res)) := by
  simp only [c13_stored_is_compared cfg env T memVer v stored expected payload hv hv32 hw,
    c05_diff_iff (expected v) stored false hde hds]
  constructor <;> intro hs
  · simp only [hs, Bool.false_eq_true, if_false]
  · simp only [hs, if_true]
    rfl

/-- identical grammars read identical values: what the writer's type wrote is what the reader's type reads -/
theorem c05_shape_gives_wire (cfg : Cfg) (env : UserFns) (T U : Ty) (v : Nat) (x wv : V) (bs r : Bytes)
    (hsame : saveWire T v = wireOf U v)
    (hp : proj T v x = .ok wv) (hs : save T v x = .ok bs)
    (hw : wfW (wireOf U v) = true) (hl : lim cfg (wireOf U v) wv = true) :
    load cfg env U v (bs ++ r) = .ok (fill env U v wv, r) :=
  load_save cfg env T U v x wv bs r (hsame ▸ encExt_refl _) hp hs hw hl

theorem c05_header_magic (memVer : Nat) (bs m r : Bytes) (h9 : takeN 9 bs = some (m, r)) (hm : m ≠ magic) :
    decHeader memVer bs = .error .notSavefile := by
  unfold decHeader; simp [h9, hm]

theorem c05_header_future_lib (memVer lib : Nat) (rest : Bytes) (hl : lib > currentLibVersion) (hl16 : lib < 256 ^ 2) :
    decHeader memVer (magic ++ leBytes 2 lib ++ rest) = .error .futureLib := by
  rw [decHeader_lib memVer lib rest hl16, if_pos hl]

theorem c05_header_newer_data (memVer lib ver : Nat) (rest : Bytes) (hl : lib ≤ currentLibVersion)
    (hv : ver > memVer) (hv32 : ver < 256 ^ 4) :
    decHeader memVer (magic ++ leBytes 2 lib ++ leBytes 4 ver ++ rest) = .error .wrongVersion := by
  have hl16 : lib < 256 ^ 2 := Nat.lt_of_le_of_lt hl (by decide)
  rw [List.append_assoc, decHeader_lib memVer lib _ hl16, if_neg (Nat.not_lt.mpr hl),
    takeN_append 4 _ _ (leBytes_length 4 ver)]
  simp only [ofLE_leBytes 4 ver hv32, hv, if_true]

/-- a header error ends the load: nothing after the header influences the result -/
theorem c05_header_first {S} (cfg : Cfg) (env : UserFns) (sc : SchemaCodec S) (expected : Option (Nat → S))
    (T : Ty) (memVer : Nat) (bs : Bytes) (e : LoadErr) (h : decHeader memVer bs = .error e) :
    loadFile cfg env sc expected T memVer bs = .error e := by
  unfold loadFile; simp [h]

end Sfv
