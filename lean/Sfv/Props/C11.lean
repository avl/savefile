/-
  Sfv.Props.C11 — By-reference argument passing only between provably identical layouts.

  `imgAt base s x` (Model/Image.lean) is the memory image schema `s` prescribes for value `x`: where each
  primitive lies (sizes, field offsets, discriminant width and recorded discriminant, array strides).

  `c11_same_image`        : `Schema::layout_compatible` only holds between schemas that prescribe the same size
                            and the same image for every value — by induction along `layoutCompatible` (`layout_same`)
  `c11_same_memory`       : the same for memory as a whole (`holdsAt`), the heap included: if the schema records
                            where a `Vec`/`String` header keeps pointer and length, the elements behind the
                            pointer are part of what is prescribed, recursively — memory that represents `x`
                            under one of two layout-compatible schemas represents `x` under the other
  `c11_unknown_*`         : anything unknown (a size, an alignment, a field offset, a Vec/String layout probe),
                            an `Option`, a custom node: never layout compatible
  `c11_by_ref_decision`   : for an argument that is not a trait object / closure / future / box, the argument is
                            passed by reference exactly when the two native schemas are layout compatible and on
                            each side the native schema is the effective one
  `c11_by_ref_sound`      : hence a by-reference argument has the same image on both sides, and both sides'
                            in-memory types are the types the negotiated version describes
  `c11_mask_step`         : the compatibility mask gets bit `i` exactly when argument `i` is so judged

  That the *real* memory of values agrees with the image of their *real* schema, wherever the schema claims a
  layout, is checked by the correspondence (`smem` suite) for every zoo type; real cross-version calls with
  by-reference arguments are compared value by value (`abicall`).
-/
import Sfv.Lemmas.Image
import Sfv.Model.Abi
namespace Sfv

theorem c11_same_image (a b : Schema) (h : layoutCompatible a b = true) :
    schemaSize a = schemaSize b ∧ ∀ base x, imgAt base a x = imgAt base b x :=
  layout_img a b h

theorem c11_same_memory (mem : Mem) (a b : Schema) (h : layoutCompatible a b = true) (base : Nat) (x : V) :
    holdsAt mem base a x = holdsAt mem base b x :=
  layout_holds mem a b h base x

theorem c11_unknown_size (n n' : Bytes) (al al' sb : Option Nat) (fa fb : SFieldL) :
    layoutCompatible (.struct n none al fa) (.struct n' sb al' fb) = false := by
  unfold layoutCompatible
  simp only [Option.isSome_none, Bool.and_false, Bool.false_and]

theorem c11_unknown_alignment (n n' : Bytes) (sa sb al' : Option Nat) (fa fb : SFieldL) :
    layoutCompatible (.struct n sa none fa) (.struct n' sb al' fb) = false := by
  unfold layoutCompatible
  simp only [Option.isSome_none, Bool.and_false, Bool.false_and]

theorem c11_unknown_offset (na nb : Bytes) (ta tb : Schema) (ob : Option Nat) (ra rb : SFieldL) :
    layoutFields (.cons na ta none ra) (.cons nb tb ob rb) = false :=
  rfl

theorem c11_unknown_vec_layout (a b : Schema) (lb : VLayout) : layoutCompatible (.vector a .unknown) (.vector b lb) = false := by
  unfold layoutCompatible
  simp only [bne_self_eq_false, Bool.and_false, Bool.false_and]

theorem c11_option_never (a b : Schema) : layoutCompatible (.option a) (.option b) = false :=
  rfl

theorem c11_enum_needs_explicit_repr (n n' : Bytes) (va vb : SVariantL) (da db : Nat) (eb : Bool) (sa sb aa ab : Option Nat) :
    layoutCompatible (.enum n va da false sa aa) (.enum n' vb db eb sb ab) = false :=
  rfl

/-- not a trait object, closure, future or box at the top -/
def plainKind : Schema → Bool
  | .future _ _ _ _ | .fnClosure _ _ | .boxed _ | .trait _ _ => false
  | _ => true

theorem c11_by_ref_decision (retPos : Option Bool) (a b ea eb : Schema) (rp : Bool) (h : plainKind a = true) :
    argLayoutCompatible retPos a b ea eb rp = .ok (layoutCompatible a b && sameSchema a ea && sameSchema b eb) := by
  unfold argLayoutCompatible
  split
  case h_5 => rfl
  all_goals cases h   -- the arms for futures, closures, boxes and trait objects

theorem c11_by_ref_sound (retPos : Option Bool) (a b ea eb : Schema) (rp : Bool) (h : plainKind a = true)
    (hok : argLayoutCompatible retPos a b ea eb rp = .ok true) :
    (schemaSize a = schemaSize b ∧ ∀ base x, imgAt base a x = imgAt base b x)
    ∧ sameSchema a ea = true ∧ sameSchema b eb = true := by
  rw [c11_by_ref_decision retPos a b ea eb rp h] at hok
  simp only [Except.ok.injEq, Bool.and_eq_true] at hok
  exact ⟨layout_img a b hok.1.1, hok.1.2, hok.2⟩

theorem c11_mask_step (retPos : Option Bool) (e1 e2 n1 n2 : Schema) (re1 re2 rn1 rn2 : SchemaL) (idx mask : Nat) (c : Bool)
    (hd : diff e1 e2 false = .same) (hc : argLayoutCompatible retPos n1 n2 e1 e2 false = .ok c) :
    anaArgs retPos (.cons e1 re1) (.cons e2 re2) (.cons n1 rn1) (.cons n2 rn2) idx mask
      = anaArgs retPos re1 re2 rn1 rn2 (idx + 1) (if c then mask + 2 ^ idx else mask) := by
  rw [anaArgs, hd, hc]

/-! ### not vacuous: two differently named structs with the same complete layout -/

def exA : Schema := .struct [65] (some 8) (some 4) (.cons [97] (.prim .u32) (some 0) (.cons [98] (.prim .u16) (some 4) .nil))
def exB : Schema := .struct [66] (some 8) (some 4) (.cons [120] (.prim .u32) (some 0) (.cons [121] (.prim .u16) (some 4) .nil))

example : layoutCompatible exA exB = true := by decide
example : imgAt 0 exA (.tup (.cons (.num 1) (.cons (.num 513) .nil)))
    = some [(0, 1), (1, 0), (2, 0), (3, 0), (4, 1), (5, 2)] := by decide

/-- a `Vec<u16>` in the standard header layout: pointer, capacity, length; the two elements lie where the
    pointer says -/
def exVec : Schema := .vector (.prim .u16) .dataCapLen
def exMem : Mem := fun a =>
  ([ (100, 200), (101, 0), (102, 0), (103, 0), (104, 0), (105, 0), (106, 0), (107, 0),   -- data pointer = 200
     (108, 4), (109, 0), (110, 0), (111, 0), (112, 0), (113, 0), (114, 0), (115, 0),     -- capacity = 4
     (116, 2), (117, 0), (118, 0), (119, 0), (120, 0), (121, 0), (122, 0), (123, 0),     -- length = 2
     (200, 1), (201, 2), (202, 255), (203, 0) ] : List (Nat × UInt8)).lookup a

example : holdsAt exMem 100 exVec (.seq (.cons (.num 513) (.cons (.num 255) .nil))) = true := by decide
example : holdsAt exMem 100 exVec (.seq (.cons (.num 513) (.cons (.num 256) .nil))) = false := by decide
/-- the same header read under another layout names another pointer: not a representation -/
example : holdsAt exMem 100 (.vector (.prim .u16) .lenDataCap) (.seq (.cons (.num 513) (.cons (.num 255) .nil))) = false := by decide

end Sfv
