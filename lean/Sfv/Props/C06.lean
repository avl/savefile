/-
  Sfv.Props.C06 — Malformed input is handled safely.

  The decoder model returns `panic site` / `ub site` exactly where the Rust code would panic or
  materialise an invalid value, so safety is unreachability of those outcomes:

  `c06_no_panic_no_ub` : in a repaired build (`cfg.repaired`), for every grammar whose bulk-read element
                         types have no invalid bit patterns (`safeBulk`), every failure on arbitrary bytes
                         is an ordinary error.
  `c06_load_safe`      : the same for `load T v` of a type descriptor.
  `c06_partial_bulk_niche` (KNOWN FINDING D8, kept visible): without `safeBulk` the statement is false —
                         `c06_bulk_bool_counterexample` exhibits `Vec<bool>` bytes `…02 ff` yielding `ub`.
  `c06_no_oversize`    : a returned sequence of n elements of minimal encoded size k consumed ≥ 8 + n·k bytes.
  `c06_suffix`         : what a successful load leaves unread is at most what it was given.
-/
import Sfv.Lemmas.Container
import Sfv.Lemmas.Safe
namespace Sfv

theorem c06_no_panic_no_ub (cfg : Cfg) (hc : cfg.repaired = true) (w : W) (bs : Bytes) (e : Fail)
    (hs : safeBulk w = true) (h : dec cfg false w bs = .error e) : ∃ c, e = .err c := by
  have := dec_safe cfg hc w false bs e hs (by simp) h
  cases e with
  | err c => exact ⟨c, rfl⟩
  | panic s => simp [Fail.isErr] at this
  | ub s => simp [Fail.isErr] at this

theorem c06_load_safe (cfg : Cfg) (env : UserFns) (hc : cfg.repaired = true) (T : Ty) (v : Nat) (bs : Bytes) (e : Fail)
    (hs : safeBulk (wireOf T v) = true) (h : load cfg env T v bs = .error e) : ∃ c, e = .err c := by
  unfold load at h
  cases hd : dec cfg false (wireOf T v) bs with
  | error e' =>
    simp only [hd, Except.error.injEq] at h; subst h
    exact c06_no_panic_no_ub cfg hc (wireOf T v) bs e' hs hd
  | ok y => simp [hd] at h

/-- the statement without the `safeBulk` hypothesis is false: `Vec<bool>` read through the bulk path
    keeps the bytes 2 and 255 as `bool`s (known finding D8) -/
theorem c06_bulk_bool_counterexample :
    dec {} false (.seq { bulk := some (1, 1) } .bool) [2,0,0,0,0,0,0,0, 2, 255] = .error (.ub .bulkBool) := by
  simp [dec, readLE, takeN, ofLE, repeatDec, overCap]

theorem c06_no_oversize (cfg : Cfg) (m : SeqMode) (t : W) (bs : Bytes) (l : VL) (r : Bytes)
    (h : dec cfg false (.seq m t) bs = .ok (.seq l, r)) :
    r.length + 8 + l.length * minSize t ≤ bs.length :=
  seq_count_bound cfg m t false bs l r h

theorem c06_suffix (cfg : Cfg) (w : W) (bs : Bytes) (v : V) (r : Bytes)
    (h : dec cfg false w bs = .ok (v, r)) : r.length + minSize w ≤ bs.length :=
  dec_consumes cfg w false bs v r h

/-- non-vacuity: `Vec<u32>` (bulk, 4-byte elements) is `safeBulk`; the default configuration is repaired -/
example : safeBulk (.seq { bulk := some (4, 4) } (.fixed 4)) = true ∧ ({} : Cfg).repaired = true := by
  simp [safeBulk, nicheFree, Cfg.repaired]

end Sfv
