/-
  Sfv.Props.C08 — I/O faults surface as errors; results are independent of chunking.

  The underlying stream is a script: what each `write`/`flush`/`read` call does (accept or deliver some of the
  bytes, `Interrupted`, `Ok(0)`, a hard error).  savefile performs all its I/O through `write_all`, `flush` and
  `read_exact` (table obligation `c08_stream_calls`, from the current source), so a save is a *writer program*
  (operations executed until the first error) and a load is a *reader program* (`RP`).  The theorems hold for
  every program and every script:

  `c08_write_prefix`          : whatever the writer does, the bytes it accepted are a prefix of the fault-free output
  `c08_no_silent_success`     : if the save reports success, every byte was accepted
  `c08_short_writes_harmless` : short writes and interruptions (no hard fault) change neither result nor bytes
  `c08_read_chunking`         : short reads and interruptions do not change the result of a load
  `c08_read_fault_surfaces`   : with hard read errors the load either returns that I/O error or behaves exactly
                                as on the intact data (it finished before reaching the fault); never another value
  `c08_crypto_writer_stream`  : the encrypted writer is such a program; its fault-free output is the encrypted
                                stream of the chunks it sealed, whose plaintext is exactly what was written to it
-/
import Sfv.Lemmas.Stream
import Sfv.Lemmas.Crypto
import Sfv.Generated.StreamCalls
namespace Sfv

theorem c08_write_prefix (ops : List WOp) (sc : List WOut) (fs : List Bool) :
    (runOps sc fs ops []).1 <+: opsBytes ops := by
  obtain ⟨t, r, h, hp, -, -⟩ := runOps_spec ops sc fs []
  rw [h]
  exact hp

theorem c08_no_silent_success (ops : List WOp) (sc : List WOut) (fs : List Bool)
    (h : (runOps sc fs ops []).2 = .ok ()) : (runOps sc fs ops []).1 = opsBytes ops := by
  obtain ⟨t, r, hr, -, hok, -⟩ := runOps_spec ops sc fs []
  rw [hr] at h ⊢
  exact hok h

theorem c08_short_writes_harmless (ops : List WOp) (sc : List WOut) (fs : List Bool)
    (h : benignW sc = true) (hf : fs.all id = true) : runOps sc fs ops [] = (opsBytes ops, .ok ()) := by
  obtain ⟨t, r, hr, -, hok, hb⟩ := runOps_spec ops sc fs []
  obtain rfl := hb h hf
  rw [hr, hok rfl, List.nil_append]

theorem c08_read_chunking {α : Type} (p : RP α) (sc : List ROut) (data : Bytes) (h : benignR sc = true) :
    (p.run sc data).1 = (p.runWhole data).1 :=
  (RP.run_spec p sc data).resolve_right fun h' => h'.1 h

theorem c08_read_fault_surfaces {α : Type} (p : RP α) (sc : List ROut) (data : Bytes) :
    (p.run sc data).1 = (p.runWhole data).1 ∨ ∃ e, (p.run sc data).1 = .io e :=
  (RP.run_spec p sc data).imp_right And.right

theorem c08_crypto_writer_stream (A : Aead) (n0 : NonceSeq) (ws : List Bytes) :
    opsBytes (cryptoWriterOps A n0 ws) = encStream A n0 (CW.chunks [] ws)
    ∧ (CW.chunks [] ws).flatten = ws.flatten
    ∧ ∀ c ∈ CW.chunks [] ws, c ≠ [] ∧ c.length ≤ cryptoBuf :=
  ⟨cryptoWriterOps_spec A n0 ws, CW.chunks_spec ws []⟩

/-- every method savefile calls on an underlying reader or writer is one of the `write_all`/`read_exact`
    family (byteorder's `write_u32::<LittleEndian>` etc. are `write_all`/`read_exact` of a fixed-size buffer),
    `flush`, `try_finish` (bzip2: end of stream), or — in `CryptoReader::read` only — the modelled raw `read`
    of the chunk length, and — in the adapter under the bzip2 encoder only — a raw `write` whose `Ok(0)` is
    turned into `WriteZero` (the encoder's own loop around it retries `Interrupted` and advances by the count
    returned: `write_all`); and no result of such a call is discarded -/
theorem c08_stream_calls :
    Generated.streamCallsUnknown = [] ∧ Generated.rawReadSites = ["CryptoReader::read"]
    ∧ Generated.rawWriteSites = ["NoZeroWrites::write"] ∧ Generated.swallowedResults = [] :=
  ⟨rfl, rfl, rfl, rfl⟩

/-! ### not vacuous -/

example : runOps [.acc 1, .intr, .acc 5, .err 7] [] [.w [1, 2, 3], .w [4, 5]] [] = ([1, 2, 3], .error (.kind 7)) := by rfl
example : runOps [.acc 1, .intr, .acc 5] [true] [.w [1, 2, 3], .flush, .w [4, 5]] [] = ([1, 2, 3, 4, 5], .ok ()) := by rfl
example : runOps [.zero] [] [.w [1]] [] = ([], .error .writeZero) := by rfl

end Sfv
