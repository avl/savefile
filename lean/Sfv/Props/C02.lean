/-
  Sfv.Props.C02 — Wire-format conformance.

  `enc` *is* the documented format, written independently of the code's structure.  The theorems below
  state its byte layout outright; the correspondence (S-enc) shows the implementation produces exactly
  these bytes, and `Sfv.Props.Tables` pins every table-shaped fact of the code to the golden tables.
-/
import Sfv.Lemmas.Container
namespace Sfv

/-- header: 9 magic bytes, u16 library format version, u32 data version, 1 compression flag — 16 bytes -/
theorem c02_header (h : Header) :
    encHeader h = [115, 97, 118, 101, 102, 105, 108, 101, 0] ++ leBytes 2 h.lib ++ leBytes 4 h.ver
                    ++ [if h.compressed then 1 else 0]
    ∧ (encHeader h).length = 16 := by
  constructor
  · rfl
  · simp [encHeader, magic, leBytes_length]

/-- primitives: fixed width, little endian (low byte first); `usize`/`isize` as 64 bit -/
theorem c02_primitives (p : Prim) (n : Nat) (hp : p ≠ .bool ∧ p ≠ .char ∧ p ≠ .unit) (h : n < 256 ^ p.wireWidth) :
    enc p.wire (.num n) = some (leBytes p.wireWidth n) ∧ Prim.usize.wireWidth = 8 ∧ Prim.isize.wireWidth = 8 := by
  refine ⟨?_, rfl, rfl⟩
  -- the clause of `Prim.wire` for everything but `bool`, `char`, `unit`
  rw [Prim.wire, enc, if_pos h]
  · exact hp.1
  · exact hp.2.1
  · exact hp.2.2

theorem c02_le_low_byte_first (k n : Nat) : leBytes (k+1) n = UInt8.ofNat (n % 256) :: leBytes k (n / 256) := rfl

/-- strings and sequences: 64-bit little-endian length, then the items -/
theorem c02_seq_string (m : SeqMode) (t : W) (l : VL) (body : Bytes) (b : Bytes)
    (hl : l.length < 2^64) (hcap : overCap m.cap l.length = false) (hb : encAll t l = some body)
    (hv : validUtf8 b = true) (hbl : b.length < 2^64) :
    enc (.seq m t) (.seq l) = some (leBytes 8 l.length ++ body)
    ∧ enc (.str none) (.bytes b) = some (leBytes 8 b.length ++ b) := by
  constructor
  · simp [enc, hl, hcap, hb]
  · simp [enc, hv, hbl, overCap]

/-- one-byte option/result tags: `Some`/`Ok` = 1, `None`/`Err` = 0 -/
theorem c02_option_result_tags (t a b : W) (v : V) (bs : Bytes) (h : enc t v = some bs)
    (ha : enc a v = some bs) (hb : enc b v = some bs) :
    enc (.opt t) .none = some [0] ∧ enc (.opt t) (.some v) = some (1 :: bs)
    ∧ enc (.res a b) (.alt 1 v) = some (1 :: bs) ∧ enc (.res a b) (.alt 0 v) = some (0 :: bs) := by
  simp [enc, h, ha, hb]

/-- struct fields are written in declaration order: the encoding of a product is the concatenation of
    the encodings of its fields -/
theorem c02_struct_order (t : W) (ts : WL) (v : V) (vs : VL) (a b : Bytes)
    (ha : enc t v = some a) (hb : encProd ts vs = some b) :
    enc (.prod (.cons t ts)) (.tup (.cons v vs)) = some (a ++ b) := by
  simp [enc, encProd, ha, hb, cat2]

/-- enum discriminant = variant index, in the declared width (1/2/4 bytes from `repr`, else from the
    number of variants), followed by the variant's fields -/
theorem c02_enum_tag (w : Nat) (alts : WL) (i : Nat) (v : V) (body : Bytes)
    (hi : i < 256 ^ w) (hb : encAlt alts i v = some body) :
    enc (.tagged w alts) (.alt i v) = some (leBytes w i ++ body) := by
  simp [enc, hi, hb]

theorem c02_enum_tag_width :
    tagWidth (.int 1) 3 = 1 ∧ tagWidth (.int 2) 3 = 2 ∧ tagWidth (.cInt 4) 3 = 4
    ∧ tagWidth .rust 256 = 1 ∧ tagWidth .rust 257 = 2 ∧ tagWidth .c 65536 = 2 ∧ tagWidth .rust 65537 = 4 := by
  decide

/-- determinism: the bytes are a function of type, version and value -/
theorem c02_deterministic (T : Ty) (v : Nat) (x y : V) (h : x = y) : save T v x = save T v y := by
  rw [h]

/-- the compiled grammar of a derived enum uses the declared discriminant width and one alternative per
    declared variant, in declaration order -/
theorem c02_enum_wire (name : String) (repr : ReprAttr) (lay : Lay) (vs : VariantL) (v : Nat) :
    wireOf (.enum name repr lay vs) v = .tagged (tagWidth repr vs.length) (wireVariants vs v) := by
  simp [wireOf]

end Sfv
