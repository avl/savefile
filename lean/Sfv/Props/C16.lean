/-
  Sfv.Props.C16 — ABI connections are safe to create and use concurrently.

  Threads are programs over the three process-global locks of savefile-abi (Model/Locks.lean); the scheduler
  is arbitrary.  The programs of the code (`c16_lock_sites`, from the current source: which function takes which
  lock in which order; that a panic under a lock does not leave it poisoned for the other threads) follow the lock order
  entry < library < templates (`c16_programs_ordered`).  For every interleaving:

  `c16_no_user_code_under_lock` : no destructor or method of user code is invoked while a global lock is held
                            (from the current source) — the threads of the model take no other locks
  `c16_mutual_exclusion`  : a lock is never held twice
  `c16_no_deadlock`       : while some thread is unfinished, some thread can move
  `c16_all_complete`      : every run has exactly as many steps as there are instructions, and ends with every
                            thread finished holding nothing — no deadlock, no livelock
  `c16_same_results`      : every template a thread obtains for a key is the one a sequential execution computes
                            for that key (first use or cached, whoever inserted it)
-/
import Sfv.Lemmas.Locks
import Sfv.Generated.Locks
namespace Sfv

theorem c16_lock_sites :
    Generated.lockSites = [("get_symbol_for", ["ENTRY_CACHE", "LIBRARY_CACHE"]), ("new_internal", ["ABI_CONNECTION_TEMPLATES"])]
    ∧ Generated.rawLockCalls = ["Guard::lock"]
    ∧ Generated.lockIgnoresPoison = true :=
  ⟨rfl, rfl, rfl⟩

/-- The model's threads take no lock of their own and re-enter nothing while they hold one of the three global
    locks.  In the code this is so as long as no *user* code runs under a guard: what is sent to the other side's
    entry point while the template guard is alive are the two interrogations (library code) and `CreateInstance`
    (a constructor; for a shared library it runs against that library's own copy of the three locks).  A destructor
    (`DropInstance`) or a method (`RegularCall`) under the guard could take any lock, the template lock included. -/
theorem c16_no_user_code_under_lock :
    Generated.protocolUnderTemplatesLock.all (fun p => ["InterrogateVersion", "InterrogateMethods", "CreateInstance"].contains p) = true := by
  decide

/-- Concurrent calls on a *shared* connection reach one implementation object from several threads at once.  The
    library can only promise the sequential results (`c16_same_results` is about connection creation; a call is the
    implementation's own code) if safe code cannot share a connection whose implementation is not `Sync`: the
    unsafe `Sync` impl of `AbiConnection<T>` has to ask `T: Sync`, the `Send` impl `T: Send`. -/
theorem c16_connection_auto_traits :
    (Generated.connSyncBounds.getD []).contains "Sync" = true ∧ (Generated.connSendBounds.getD []).contains "Send" = true := by
  decide

theorem c16_programs_ordered (k : Nat) (ks : List Nat) :
    Ordered progGetSymbol [] ∧ Ordered (progNewInternal k) [] ∧ Ordered (progLoadLibrary k) [] ∧ Ordered (progCall ks) [] := by
  have hg : Ordered progGetSymbol [] := by simp [progGetSymbol, Ordered, Lock.rank]
  have hn (k : Nat) : Ordered (progNewInternal k) [] := by simp [progNewInternal, Ordered]
  refine ⟨hg, hn k, .append (hn k) hg, ?_⟩
  induction ks with
  | nil => exact rfl
  | cons k ks ih => exact .append ih (hn k)

/-- an initial state: nothing held, nothing cached, every program follows the lock order -/
def Initial (s : LState) : Prop :=
  s.cache = [] ∧ ∀ t ∈ s.threads, t.held = [] ∧ t.results = [] ∧ Ordered t.prog []

theorem initial_inv (compute : Nat → Nat) (s : LState) (h : Initial s) : Inv compute s := by
  obtain ⟨hc, ht⟩ := h
  refine ⟨fun t htm => ?_, fun l => ?_, ?_, fun t htm => ?_⟩
  · rw [(ht t htm).1]; exact (ht t htm).2.2
  · rw [countHeld_eq_zero fun u hu => by rw [(ht u hu).1]; exact List.not_mem_nil]
    exact Nat.zero_le 1
  · rw [hc]; exact fun _ _ => nofun
  · rw [(ht t htm).2.1]; exact fun _ _ => nofun

theorem c16_mutual_exclusion (compute : Nat → Nat) (s s' : LState) (n : Nat) (h0 : Initial s) (hr : Run compute n s s') (l : Lock) :
    countHeld s'.threads l ≤ 1 :=
  (run_inv compute n s s' hr (initial_inv compute s h0)).1.excl l

theorem c16_no_deadlock (compute : Nat → Nat) (s s' : LState) (n : Nat) (h0 : Initial s) (hr : Run compute n s s')
    (hnf : ¬ Finished s'.threads) : ∃ s'', Step compute s' s'' :=
  can_step compute s' (run_inv compute n s s' hr (initial_inv compute s h0)).1 hnf

theorem c16_all_complete (compute : Nat → Nat) (s s' : LState) (n : Nat) (h0 : Initial s) (hr : Run compute n s s') :
    n ≤ remaining s.threads ∧ (n = remaining s.threads ↔ Finished s'.threads)
    ∧ (Finished s'.threads → ∀ t ∈ s'.threads, t.held = []) := by
  obtain ⟨hi, hrem⟩ := run_inv compute n s s' hr (initial_inv compute s h0)
  refine ⟨hrem ▸ Nat.le_add_left .., ?_, fun hf t ht => ?_⟩
  · rw [finished_iff_remaining]; omega
  · have := hi.wf t ht
    rwa [hf t ht] at this

theorem c16_same_results (compute : Nat → Nat) (s s' : LState) (n : Nat) (h0 : Initial s) (hr : Run compute n s s') :
    ∀ t ∈ s'.threads, ∀ k v, (k, v) ∈ t.results → v = compute k :=
  (run_inv compute n s s' hr (initial_inv compute s h0)).1.results

/-! ### not vacuous: two threads, one loading a library, one creating a connection for the same key -/

def exState : LState :=
  { threads := [{ prog := progLoadLibrary 7, held := [], results := [] }, { prog := progNewInternal 7, held := [], results := [] }],
    cache := [] }

example : Initial exState := by
  refine ⟨rfl, ?_⟩
  intro t ht
  simp only [exState, List.mem_cons, List.mem_nil_iff, or_false] at ht
  rcases ht with rfl | rfl
  · exact ⟨rfl, rfl, (c16_programs_ordered 7 []).2.2.1⟩
  · exact ⟨rfl, rfl, (c16_programs_ordered 7 []).2.1⟩

end Sfv
