/-
  Sfv.Props.C12 — Schemas are faithful: the schema of a type describes the bytes written for it.

  `schemaOf sc T v []` is what `get_schema::<T>(v)` returns (tied byte-for-byte to the code by S-schema),
  `schemaWire` reads a schema as the grammar a generic schema-driven reader follows, `erase (saveWire T v)`
  is the byte structure of what the writer emits.

  `c12_faithful`     : for every type in the fragment `frag` whose recursion guards all miss, the two
                       grammars are *equal*.
  `c12_parse_complete` : hence the generic reader parses everything `save T v` writes, completely
                       (nothing left over), and recovers the wire value: same field count and order,
                       primitive widths, sequence lengths, variant discriminants.
  `c12_no_recursion` : and the schema contains no recursion marker.
  Outside the fragment the statement is false in the code as it is (KNOWN FINDINGS, proved below):
  `c12_result_unfaithful` (both discriminants 0), `c12_socketaddr_unfaithful` (port etc. missing),
  `c12_hashmap_false_recursion` (value guarded with the key's type).
-/
import Sfv.Lemmas.Faithful
namespace Sfv

theorem c12_faithful (sc : SCfg) (T : Ty) (v : Nat) (hv : v ≤ u32Max)
    (hf : frag T v = true) (hg : guardsMiss T v [] = true) :
    schemaWire (schemaOf sc T v []) = some (erase (saveWire T v)) :=
  faithful sc v hv T [] hf hg

theorem c12_parse_complete (cfg : Cfg) (sc : SCfg) (T : Ty) (v : Nat) (x wv : V) (bs : Bytes) (hv : v ≤ u32Max)
    (hf : frag T v = true) (hg : guardsMiss T v [] = true)
    (hp : proj T v x = .ok wv) (hs : save T v x = .ok bs)
    (hl : lim cfg (erase (saveWire T v)) wv = true) :
    parse cfg (schemaOf sc T v []) bs = some (.ok (wv, [])) := by
  obtain ⟨wv', hp', he⟩ := save_ok hs
  cases hp.symm.trans hp'
  have := rt cfg _ wv false bs [] (enc_erase _ wv bs he) (wfW_erase _) hl
  rw [List.append_nil] at this
  unfold parse
  rw [c12_faithful sc T v hv hf hg, Option.map_some, this]

theorem c12_no_recursion (sc : SCfg) (T : Ty) (v : Nat) (hv : v ≤ u32Max)
    (hf : frag T v = true) (hg : guardsMiss T v [] = true) :
    hasRecursion (schemaOf sc T v []) = false :=
  schemaWire_noRec _ _ (c12_faithful sc T v hv hf hg)

/-! known findings: the code's schemas for these types do not describe their bytes -/

/-- `Result<u8, u8>`: the schema gives both variants discriminant 0, the bytes use 1 (Ok) / 0 (Err) -/
theorem c12_result_unfaithful (sc : SCfg) :
    schemaWire (schemaOf sc (.res (.prim .u8) (.prim .u8)) 0 []) = none
    ∧ save (.res (.prim .u8) (.prim .u8)) 0 (.alt 1 (.num 7)) = .ok [1, 7] := by
  refine ⟨rfl, ?_⟩
  have hp : proj (.res (.prim .u8) (.prim .u8)) 0 (.alt 1 (.num 7)) = .ok (.alt 1 (.num 7)) := rfl
  dsimp only [save, saveWire, Prim.wire, Prim.wireWidth]
  simp [hp, enc, leBytes]

/-- `SocketAddr`: the schema is that of `IpAddr`; port, flow info and scope id are not described -/
theorem c12_socketaddr_unfaithful (sc : SCfg) :
    schemaWire (schemaOf sc .sock 0 []) = some ipWire ∧ erase (saveWire .sock 0) ≠ ipWire :=
  ⟨rfl, nofun⟩

/-- `HashMap<u32, Vec<u32>>`: a non-recursive type whose schema contains `Recursion(1)` -/
theorem c12_hashmap_false_recursion (sc : SCfg) :
    hasRecursion (schemaOf sc (.map false (.prim .u32) (.seq .vec (.prim .u32))) 0 []) = true :=
  rfl

/-- non-vacuity of `c12_faithful`: a versioned struct holding a vector of tuples -/
example :
    let T : Ty := .struct "S" .rust {}
      (.cons { name := "a" } (.prim .u16) .nil
      (.cons { name := "b", r := ⟨1, u32Max⟩ } (.seq .vec (.tup {} [0, 4] (.cons (.prim .u32) (.cons (.str none true) .nil)))) .nil .nil))
    frag T 1 = true ∧ guardsMiss T 1 [] = true := by
  decide

end Sfv
