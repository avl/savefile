/-
  Sfv.Props.C03 — Backward-compatible loading across schema evolution.

  A later definition `B` carries its history in its attributes; `wireOf B i` is the grammar `B` reads at
  file version `i`, `fill env B i` the memory value it builds (defaults, conversions, removed fields).
  The program of version `i` (`A`, current at `i`) wrote `saveWire A i`.

  `c03_upgrade`      : if everything `saveWire A i` encodes is encoded identically by `wireOf B i`
                       (`encExt`, a decidable relation checked for every zoo family on every run), then what
                       `A` saved at `i` loads in `B` as `fill env B i` of the saved wire value, consuming
                       exactly the bytes written.
  edit steps         : adding a field (any position, range `k..`), removing one (`Removed`/`AbiRemoved`,
                       range closed at `k-1`), converting one (`savefile_versions_as`), appending variants —
                       each leaves the grammar of every version `i < k` unchanged (variants: as a prefix),
                       at any position (`pre.app (… suf)`), hence through any sequence of steps.
  `c03_fill_*`       : what `fill` does per field: retained fields keep the saved value, removed fields
                       consume exactly their own value and disturb no neighbour, added fields take the
                       declared default, converted fields hold the conversion of the saved value.
-/
import Sfv.Lemmas.Evolve
namespace Sfv

theorem c03_upgrade (cfg : Cfg) (env : UserFns) (A B : Ty) (i : Nat) (x wv : V) (bs r : Bytes)
    (hext : encExt (saveWire A i) (wireOf B i) = true)
    (hp : proj A i x = .ok wv) (hs : save A i x = .ok bs)
    (hw : wfW (wireOf B i) = true) (hl : lim cfg (wireOf B i) wv = true) :
    load cfg env B i (bs ++ r) = .ok (fill env B i wv, r) :=
  load_save cfg env A B i x wv bs r hext hp hs hw hl

/-- adding a field at version `k` anywhere in a struct/variant leaves older grammars unchanged -/
theorem c03_add_field (pre suf : FieldL) (a : FieldAttr) (t : Ty) (k i : Nat) (hi : i < k) (hr : a.r.lo = k) :
    wireFields (pre.app (.cons a t .nil suf)) i = wireFields (pre.app suf) i :=
  wireFields_splice i pre (.cons a t .nil .nil) .nil suf (by
    have : a.r.has i = false := VerRange.not_has_iff.2 (.inl (hr ▸ hi))
    dsimp only [wireFields, wireAs]
    simp only [this, Bool.false_eq_true, if_false, ite_self])

theorem c03_remove_field (pre suf : FieldL) (a : FieldAttr) (t : Ty) (as : AsL) (rm : Removal) (k i : Nat)
    (hi : i < k) (hhi : a.r.hi ≥ k - 1) :
    wireFields (pre.app (.cons { a with rm := rm, r := ⟨a.r.lo, k - 1⟩ } t as suf)) i
      = wireFields (pre.app (.cons a t as suf)) i :=
  wireFields_splice i pre (.cons _ t as .nil) (.cons a t as .nil) suf (by
    dsimp only [wireFields]
    rw [VerRange.has_close hi hhi])

theorem c03_convert_field (pre suf : FieldL) (a : FieldAttr) (told tnew : Ty) (as : AsL) (conv k i : Nat)
    (hi : i < k) (hhi : a.r.hi ≥ k - 1) (hdisj : asHas as i = true → a.r.has i = false)
    (hnoas : wireAs as i = none ∨ a.r.has i = false) :
    wireFields (pre.app (.cons { a with r := ⟨k, u32Max⟩ } tnew (.cons ⟨a.r.lo, k - 1⟩ told conv as) suf)) i
      = wireFields (pre.app (.cons a told as suf)) i :=
  wireFields_splice i pre (.cons _ tnew _ .nil) (.cons a told as .nil) suf (by
    -- below `k` the new range is empty and the `versions_as` entry has the old field's range
    have hnew : VerRange.has ⟨k, u32Max⟩ i = false := VerRange.not_has_iff.2 (.inl hi)
    dsimp only [wireFields, wireAs]
    simp only [VerRange.has_close hi hhi, hnew, Bool.false_eq_true, if_false]
    rcases hnoas with h | h
    · cases a.r.has i <;> simp only [h, if_true, Bool.false_eq_true, if_false]
    · simp only [h, Bool.false_eq_true, if_false])

/-- appending variants: the old alternatives stay a prefix, old discriminants keep their meaning -/
theorem c03_append_variants (name : String) (repr : ReprAttr) (lay lay' : Lay) (vs more : VariantL) (i : Nat)
    (hw : tagWidth repr (vs.app more).length = tagWidth repr vs.length) :
    encExt (wireOf (.enum name repr lay vs) i) (wireOf (.enum name repr lay' (vs.app more)) i) = true := by
  dsimp only [wireOf, encExt]
  rw [hw, beq_self_eq_true, wireVariants_app, encExtPrefix_app]
  rfl

/-- nesting: evolution inside a member carries over to the containing collection / option / struct field -/
theorem c03_nested (a b : W) (m m' : SeqMode) (h : encExt a b = true) (hc : m.cap = m'.cap) :
    encExt (.seq m a) (.seq m' b) = true ∧ encExt (.opt a) (.opt b) = true
    ∧ encExt (.prod (.cons a .nil)) (.prod (.cons b .nil)) = true := by
  dsimp only [encExt, encExtL]
  simp [h, hc]

/-! what `fill` does for the field at the head of a field list -/

theorem c03_fill_retained (env : UserFns) (a : FieldAttr) (t : Ty) (as : AsL) (fs : FieldL) (i : Nat) (x : V) (xs : VL)
    (hig : a.ignore = false) (hno : asHas as i = false) (hh : a.r.has i = true) (hrm : a.rm = .no) :
    fillFields env (.cons a t as fs) i (.cons x xs) = .cons (fill env t i x) (fillFields env fs i xs) := by
  dsimp only [fillFields]
  simp [hig, hno, hh, hrm]

/-- a removed field reads exactly its own value and discards it; the following fields see the rest -/
theorem c03_fill_removed (env : UserFns) (a : FieldAttr) (t : Ty) (as : AsL) (fs : FieldL) (i : Nat) (x : V) (xs : VL)
    (hig : a.ignore = false) (hno : asHas as i = false) (hh : a.r.has i = true) (hrm : a.rm ≠ .no) :
    fillFields env (.cons a t as fs) i (.cons x xs) = .cons unitV (fillFields env fs i xs) := by
  have : (a.rm != .no) = true := by simpa using hrm
  dsimp only [fillFields]
  simp [hig, hno, hh, this]

/-- a field that did not exist at version `i` takes its declared default and reads nothing -/
theorem c03_fill_added (env : UserFns) (a : FieldAttr) (t : Ty) (as : AsL) (fs : FieldL) (i : Nat) (l : VL)
    (hig : a.ignore = false) (hno : asHas as i = false) (hh : a.r.has i = false) (hrm : a.rm = .no) :
    fillFields env (.cons a t as fs) i l = .cons a.dflt (fillFields env fs i l) := by
  dsimp only [fillFields]
  simp [hig, hno, hh, hrm]

/-- a converted field holds the conversion of the saved (old-typed) value -/
theorem c03_fill_converted (env : UserFns) (a : FieldAttr) (t told : Ty) (conv : Nat) (r : VerRange) (as : AsL)
    (fs : FieldL) (i : Nat) (x : V) (xs : VL) (hig : a.ignore = false) (hr : r.has i = true) :
    fillFields env (.cons a t (.cons r told conv as) fs) i (.cons x xs)
      = .cons (env conv (fill env told i x)) (fillFields env fs i xs) := by
  dsimp only [fillFields, asHas, fillAs]
  simp [hig, hr]

/-- non-vacuity: a two-step history (add `c` at 1, convert `a: u16 → u32` at 1) and version 0 -/
example :
    let A : Ty := .struct "T" .rust {} (.cons { name := "a" } (.prim .u16) .nil (.cons { name := "b" } (.prim .u8) .nil .nil))
    let B : Ty := .struct "T" .rust {}
      (.cons { name := "a", r := ⟨1, u32Max⟩ } (.prim .u32) (.cons ⟨0, 0⟩ (.prim .u16) 0 .nil)
      (.cons { name := "b" } (.prim .u8) .nil
      (.cons { name := "c", r := ⟨1, u32Max⟩, dflt := .num 9 } (.prim .u32) .nil .nil)))
    encExt (saveWire A 0) (wireOf B 0) = true := by
  decide

end Sfv
