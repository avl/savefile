/-
  Sfv.Props.Tables — proof obligations over the tables regenerated from the Rust source on
  every run (`Sfv.Generated`), re-proved by the kernel against what the code says *now*:

   * the generated tables agree with the golden tables of the documented format (`Sfv.Pinned`)
     on every pinned entry — a consistent renumbering/re-sizing of writer *and* reader is a
     failing obligation here;
   * writer and reader tables are mutually inverse;
   * the model's own constants (`Prim.wireWidth`, `Prim.packed`, `canaryMagic`, tag rules, limits)
     are the ones the code uses.
-/
import Sfv.Model.Ty
import Sfv.Generated.Tables
import Sfv.Pinned.Tables
namespace Sfv

def primName : Prim → String
  | .u8 => "u8" | .i8 => "i8" | .u16 => "u16" | .i16 => "i16" | .u32 => "u32" | .i32 => "i32"
  | .u64 => "u64" | .i64 => "i64" | .u128 => "u128" | .i128 => "i128" | .f32 => "f32" | .f64 => "f64"
  | .bool => "bool" | .char => "char" | .usize => "usize" | .isize => "isize" | .unit => "()"

def allPrims : List Prim :=
  [.u8, .i8, .u16, .i16, .u32, .i32, .u64, .i64, .u128, .i128, .f32, .f64, .bool, .char, .usize, .isize]

def lookupS {α} (k : String) : List (String × α) → Option α
  | [] => none
  | (k', v) :: rest => if k == k' then some v else lookupS k rest

/-- width with which the code writes primitive `p`: `impl Serialize for p` → `write_X` → byteorder width -/
def codeWriteWidth (p : Prim) : Option (Nat × String) :=
  (lookupS (primName p) Generated.primSerializeVia).bind (fun m => lookupS m Generated.writerMethods)
def codeReadWidth (p : Prim) : Option (Nat × String) :=
  (lookupS (primName p) Generated.primDeserializeVia).bind (fun m => lookupS m Generated.readerMethods)

/-- T2/T3: every primitive is written and read with the model's width, little endian -/
theorem tables_prim_widths :
    allPrims.all (fun p => codeWriteWidth p == some (p.wireWidth, "LittleEndian")
                        && codeReadWidth p == some (p.wireWidth, "LittleEndian")) = true := by decide

/-- T4: `Packed::yes` exactly for the primitives the model treats as packed -/
theorem tables_prim_packed :
    (Prim.unit :: allPrims).all (fun p => lookupS (primName p) Generated.primPacked == some (if p.packed then "yes" else "no")) = true := by
  decide

/-- T1: header constants are the pinned ones; reader checks what the writer writes -/
theorem tables_header :
    Generated.magicWritten = Pinned.magicWritten ∧ Generated.magicExpected = Generated.magicWritten
    ∧ Generated.headerWrites = Pinned.headerWrites ∧ Generated.headerReads = Pinned.headerReads
    ∧ Generated.currentLibVersion = Pinned.currentLibVersion
    ∧ Generated.loadRejectsNewerLib = true ∧ Generated.loadRejectsNewerData = true :=
  ⟨rfl, rfl, rfl, rfl, rfl, rfl, rfl⟩

/-- T2 vs pinned: no primitive changed its width or byte order -/
theorem tables_methods_pinned :
    Generated.writerMethods = Pinned.writerMethods ∧ Generated.readerMethods = Pinned.readerMethods
    ∧ Generated.primSerializeVia = Pinned.primSerializeVia ∧ Generated.primDeserializeVia = Pinned.primDeserializeVia
    ∧ Generated.readBoolIsEqOne = true ∧ Generated.writeBoolOneZero = true :=
  ⟨rfl, rfl, rfl, rfl, rfl, rfl⟩

/-- option/result tags: `Some`/`Ok` = 1, `None`/`Err` = 0 -/
theorem tables_option_result_tags :
    Generated.optionSomeTag = some true ∧ Generated.optionNoneTag = some false
    ∧ Generated.resultOkTag = some true ∧ Generated.resultErrTag = some false :=
  ⟨rfl, rfl, rfl, rfl⟩

/-- T8: the io::ErrorKind numbering is pinned and the reader inverts the writer -/
theorem tables_error_kinds :
    Generated.errorKindWrite = Pinned.errorKindWrite ∧ Generated.errorKindRead = Pinned.errorKindRead
    ∧ Generated.errorKindWriteOther = Pinned.errorKindWriteOther
    ∧ Generated.errorKindWrite.all (fun (k, n) => Generated.errorKindRead.any (fun (n', k') => n == n' && k == k')) = true :=
  ⟨rfl, rfl, rfl, by decide⟩

/-- T10: limits and magic numbers are the model's -/
theorem tables_limits :
    Generated.stringSanityLimit = some 1000000 ∧ Generated.vecSanityLimit = some 1000000
    ∧ Generated.canaryWritten = some canaryMagic ∧ Generated.canaryExpected = some canaryMagic
    ∧ Generated.cryptoBufSize = some 100000 :=
  ⟨rfl, rfl, rfl, rfl, rfl⟩

/-- derive: discriminant width rule is the model's `tagWidth` -/
theorem tables_enum_tag_rule :
    Generated.enumTagLimits = [256, 65536]
    ∧ Generated.enumReprWidths = [("u8", 1), ("i8", 1), ("u16", 2), ("i16", 2), ("u32", 4), ("i32", 4)] :=
  ⟨rfl, rfl⟩

/-- T6: schema tags are pinned; every tag the writer emits is understood by the reader -/
theorem tables_schema_tags :
    Generated.schemaTagsWritten = Pinned.schemaTagsWritten
    ∧ Generated.schemaPrimTagsWritten = Pinned.schemaPrimTagsWritten
    ∧ Generated.schemaPrimTagsRead = Pinned.schemaPrimTagsRead
    ∧ Generated.schemaPrimTagsWritten.all (fun (k, n) => Generated.schemaPrimTagsRead.any (fun (n', k') => n == n' && k == k')) = true :=
  ⟨rfl, rfl, rfl, by decide⟩

/-- the comparison functions pair a schema kind only with itself, and with exactly the kinds the model pairs:
    every arm of `diff_schema` and of `Schema::layout_compatible` in the current source matches the same kind on both
    sides (a merged arm such as `Boxed | Reference | Slice` on both sides would compare a box with a slice) -/
theorem tables_schema_arms :
    Generated.diffSchemaArms = Pinned.diffSchemaArms ∧ Generated.layoutCompatibleArms = Pinned.layoutCompatibleArms
    ∧ (Generated.diffSchemaArms.getD []).all (fun p => p.1 == p.2) = true
    ∧ (Generated.layoutCompatibleArms.getD []).all (fun p => p.1 == p.2) = true
    ∧ Generated.diffSchemaArms.isSome = true ∧ Generated.layoutCompatibleArms.isSome = true :=
  ⟨rfl, rfl, by decide⟩

end Sfv
