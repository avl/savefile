/-
  Sfv.Props.C13 — Schema values persist exactly; comparison is reflexive and complete.

  `encSchema v` / `decSchema v` are the three on-disk schema formats (tied to the code by S-schemawire).
  `c13_rt2`, `c13_rt1`, `c13_rt0` : a well-formed schema written at format 2 / 1 / 0 reads back (followed by
        anything, with the fuel the loader uses) as itself / itself minus method receiver+async flags /
        itself minus every memory-layout annotation; a data-file schema is unchanged by format 1.
        (Format 0 has no writer left in the code base: `encSchema 0` is its reconstruction.)
  `c13_stored_is_compared` : the loader compares exactly the schema decoded from the stored bytes at the
        file's library version.
  `c13_refl`  : comparing a data schema with itself reports no difference; `Undefined` is the coded exception.
  `c13_complete_*` : each single change that alters the wire layout is reported as a difference.
-/
import Sfv.Lemmas.SchemaMono
import Sfv.Model.RealCodec
import Sfv.Props.C07
import Sfv.Lemmas.SchemaMisc
namespace Sfv

theorem c13_rt2 (cfg : Cfg) (s : Schema) (r : Bytes) (hw : wfS cfg s = true) :
    decSchema cfg 2 ((encSchema 2 s ++ r).length + 1) (encSchema 2 s ++ r) = .ok (s, r) := by
  have := schema_rt_len cfg 2 s r hw
  rwa [normS_ge2 2 (by omega) s] at this

theorem c13_rt1 (cfg : Cfg) (s : Schema) (r : Bytes) (hw : wfS cfg s = true) :
    decSchema cfg 1 ((encSchema 1 s ++ r).length + 1) (encSchema 1 s ++ r) = .ok (normS 1 s, r)
    ∧ (dataS s = true → normS 1 s = s) :=
  ⟨schema_rt_len cfg 1 s r hw, normS_ge1_data 1 (by omega) s⟩

theorem c13_rt0 (cfg : Cfg) (s : Schema) (r : Bytes) (hw : wfS cfg s = true) :
    decSchema cfg 0 ((encSchema 0 s ++ r).length + 1) (encSchema 0 s ++ r) = .ok (normS 0 s, r) :=
  schema_rt_len cfg 0 s r hw

/-- what gets compared on load is the schema that was stored (format 2 writer, any well-formed schema) -/
theorem c13_stored_is_compared (cfg : Cfg) (env : UserFns) (T : Ty) (memVer v : Nat) (stored : Schema)
    (expected : Nat → Schema) (payload : Bytes)
    (hv : v ≤ memVer) (hv32 : v < 2^32) (hw : wfS cfg stored = true) :
    loadFile cfg env (realSchemaCodec cfg) (some expected) T memVer
        (encHeader { lib := currentLibVersion, ver := v, compressed := false } ++ (encSchema 2 stored ++ payload))
      = (if diff (expected v) stored false = .same then
           (match load cfg env T v payload with
            | .error f => .error (.payload f)
            | .ok res => .ok res)
         else .error .schema) := by
  unfold loadFile
  rw [decHeader_encHeader _ memVer _ (Nat.le_refl _) hv hv32]
  simp only [Bool.false_eq_true, if_false, realSchemaCodec, currentLibVersion, c13_rt2 cfg stored payload hw,
    beq_iff_eq]
  rfl

/-- reflexivity on everything a data file's schema can contain -/
theorem c13_refl (s : Schema) (rp : Bool) (h : dataS s = true) : diff s s rp = .same :=
  diff_refl_data s rp h

/-- the coded, documented exception -/
theorem c13_undefined_not_refl (rp : Bool) : diff .undefined .undefined rp = .differ := by simp [diff]

/-! single changes that alter the wire layout are reported -/

theorem c13_complete_primitive (a b : SPrim) (rp : Bool) (h : a.shape ≠ b.shape) :
    diff (.prim a) (.prim b) rp = .differ := by
  have hab : a ≠ b := fun e => h (e ▸ rfl)
  rw [diff.eq_def]
  simp only [hab, if_false]
  split
  · exact absurd rfl h
  · rfl

theorem c13_complete_field_count (na nb : Bytes) (sa sb aa ab : Option Nat) (fa fb : SFieldL) (rp : Bool)
    (h : fa.length ≠ fb.length) : diff (.struct na sa aa fa) (.struct nb sb ab fb) rp = .differ := by
  simp [diff, diffFieldsLen, h]

theorem c13_complete_variant_count (na nb : Bytes) (va vb : SVariantL) (da db : Nat) (ea eb : Bool)
    (sa sb aa ab : Option Nat) (rp : Bool) (h : va.length ≠ vb.length) :
    diff (.enum na va da ea sa aa) (.enum nb vb db eb sb ab) rp = .differ := by
  simp [diff, h]

theorem c13_complete_discriminant_width (na nb : Bytes) (va vb : SVariantL) (da db : Nat) (ea eb : Bool)
    (sa sb aa ab : Option Nat) (rp : Bool) (h : da ≠ db) :
    diff (.enum na va da ea sa aa) (.enum nb vb db eb sb ab) rp = .differ := by
  by_cases hl : va.length = vb.length <;> simp [diff, h, hl]

theorem c13_complete_variant_name (na nb : Bytes) (da db : Nat) (fa fb : SFieldL) (ra rb : SVariantL) (h : na ≠ nb) :
    diffVariants (.cons na da fa ra) (.cons nb db fb rb) = .differ := by
  simp [diffVariants, h]

theorem c13_complete_variant_discriminant (n : Bytes) (da db : Nat) (fa fb : SFieldL) (ra rb : SVariantL) (h : da ≠ db) :
    diffVariants (.cons n da fa ra) (.cons n db fb rb) = .differ := by
  simp [diffVariants, h]

theorem c13_complete_array_length (a b : Schema) (na nb : Nat) (rp : Bool) (h : na ≠ nb) :
    diff (.array a na) (.array b nb) rp = .differ := by
  simp [diff, h]

/-- a schema never has the shape of itself wrapped in an option or a vector -/
theorem shape_wrap_ne : ∀ (t : Schema), shapeEq t (.option t) = false ∧ ∀ l, shapeEq t (.vector t l) = false := by
  intro t
  have grows : ∀ u, sizeS u = 1 + sizeS t → shapeEq t u = false := fun u hu =>
    Bool.eq_false_iff.mpr fun h => by have := shapeEq_size.1 t u h; omega
  exact ⟨grows _ rfl, fun l => grows _ rfl⟩

/-- wrapping a schema in an option or a vector is a difference (and so is any reordering that changes a
    shape, by `c05_diff_iff`) -/
theorem c13_complete_wrapping (s : Schema) (l : VLayout) (rp : Bool) (h : dataS s = true) :
    diff s (.option s) rp ≠ .same ∧ diff s (.vector s l) rp ≠ .same := by
  simp only [ne_eq, diff_same_iff.1 s _ h rp, (shape_wrap_ne s).1, (shape_wrap_ne s).2 l, Bool.false_eq_true,
    not_false_eq_true, and_self]

/-- non-vacuity: a well-formed data schema with layout annotations -/
example : wfS {} (.struct [80] (some 8) (some 4)
      (.cons [97] (.prim .u32) (some 0) (.cons [98] (.vector (.prim (.str .capDataLen)) .capDataLen) (some 4) .nil))) = true
    ∧ dataS (.struct [80] (some 8) (some 4)
      (.cons [97] (.prim .u32) (some 0) (.cons [98] (.vector (.prim (.str .capDataLen)) .capDataLen) (some 4) .nil))) = true := by
  decide

/-- the real schema section reader does not look beyond what it consumes (this discharges the hypothesis of
    `c07_file_prefix` for the real format) -/
theorem c13_reader_monotone (cfg : Cfg) (s : Bytes) (lib : Nat) (bs : Bytes) (sch : Schema) (r' : Bytes)
    (h : (realSchemaCodec cfg).decS lib bs = .ok (sch, r')) :
    (realSchemaCodec cfg).decS lib (bs ++ s) = .ok (sch, r' ++ s) := by
  simp only [realSchemaCodec] at h ⊢
  exact decSchema_mono cfg lib s bs (bs.length + 1) ((bs ++ s).length + 1) sch r' h (by simp)

/-- C07 for plain files with the real schema codec, no hypothesis left about the schema reader: whenever the
    complete file loads and is consumed entirely, no strict prefix of it loads -/
theorem c13_plain_file_prefix (cfg : Cfg) (env : UserFns) (expected : Option (Nat → Schema))
    (T : Ty) (memVer : Nat) (p s : Bytes) (x : V)
    (hfull : loadFile cfg env (realSchemaCodec cfg) expected T memVer (p ++ s) = .ok (x, []))
    (hs : s ≠ []) :
    ∀ x' r', loadFile cfg env (realSchemaCodec cfg) expected T memVer p ≠ .ok (x', r') :=
  c07_file_prefix cfg env (realSchemaCodec cfg) expected T memVer p s x
    (fun s lib bs sch r' h => c13_reader_monotone cfg s lib bs sch r' h) hfull hs

end Sfv
