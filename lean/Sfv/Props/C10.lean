/-
  Sfv.Props.C10 — ABI version tolerance (the decisions taken when a connection is created, and the transfer of
  values at the negotiated version).

  `connect` is `AbiConnection::new_internal` + `analyze_and_create` on the definition families of the two sides.

  `c10_effective_version`       : the negotiated version is the lower of the two latest versions
                                  (`c10_constants`: the code computes `own_version.min(callee_abi_version)`)
  `c10_caller_only_method`      : a method only the caller knows does not prevent connecting: it is listed
                                  without a callee method number (calling it panics at call time)
  `c10_callee_only_methods`     : methods only the implementation knows (added behind the known ones, under new
                                  names) change nothing
  `c10_rejects_argument_count`, `c10_rejects_changed_type` : a common method whose argument count differs, or
                                  whose argument/return types differ at the effective version, makes connection
                                  creation fail (never a silent connection)
  `c10_value_transfer`          : what one side writes at the effective version k with its definition is read by
                                  the other side's definition at k as the projected value with defaults filled
                                  in — for arguments (caller → implementation) and return values alike; this is
                                  the C18/C03 transfer theorem at k = min(i, j)
-/
import Sfv.Lemmas.Abi
import Sfv.Generated.Abi
import Sfv.Lemmas.Evolve
namespace Sfv

theorem c10_constants :
    Generated.effectiveVersionIsMin = true ∧ Generated.maxMethods = some 64 ∧ Generated.maxArguments = some 64 := by
  decide

theorem c10_effective_version (retPos : Option Bool) (callerDefs calleeDefs : Nat → TraitDef) (i j : Nat) :
    (connect retPos callerDefs calleeDefs i j).1 = min i j := rfl

theorem c10_caller_only_method (retPos : Option Bool) (callerEff calleeEff calleeNative : MethodL) (name : Bytes)
    (sig : MethodSig) (h : findMethod calleeNative name = none) :
    anaMethod retPos callerEff calleeEff calleeNative name sig = .ok { name := name, calleeNum := none, mask := 0 } := by
  unfold anaMethod
  rw [h]
  cases methodIndex calleeNative name 0 <;> rfl

theorem methodIndex_app_left : ∀ (a b : MethodL) (n : Bytes) (i k : Nat),
    methodIndex a n i = some k → methodIndex (a.app b) n i = some k
  | .nil => fun _ _ _ _ h => nomatch h
  | .cons m ret rc asy args rest => fun b n i k h => by
    dsimp only [methodIndex, MethodL.app] at h ⊢
    by_cases hm : m = n
    · rwa [if_pos hm] at h ⊢
    · rw [if_neg hm] at h ⊢
      exact methodIndex_app_left rest b n (i + 1) k h

theorem methodIndex_some_of_find : ∀ (a : MethodL) (n : Bytes) (i : Nat) (sig : MethodSig),
    findMethod a n = some sig → ∃ k, methodIndex a n i = some k
  | .nil => fun _ _ _ h => nomatch h
  | .cons m ret rc asy args rest => fun n i sig h => by
    dsimp only [findMethod, methodIndex] at h ⊢
    by_cases hm : m = n
    · exact ⟨i, if_pos hm⟩
    · rw [if_neg hm] at h ⊢
      exact methodIndex_some_of_find rest n (i + 1) sig h

/-- for a method the implementation already had, methods appended to the implementation's definitions are not looked at -/
theorem c10_callee_only_methods (retPos : Option Bool) (callerEff calleeEff calleeNative extraE extraN : MethodL)
    (name : Bytes) (sig ceeN ceeE : MethodSig)
    (hn : findMethod calleeNative name = some ceeN) (he : findMethod calleeEff name = some ceeE) :
    anaMethod retPos callerEff (calleeEff.app extraE) (calleeNative.app extraN) name sig
      = anaMethod retPos callerEff calleeEff calleeNative name sig := by
  obtain ⟨k, hk⟩ := methodIndex_some_of_find calleeNative name 0 ceeN hn
  unfold anaMethod
  rw [methodIndex_app_left calleeNative extraN name 0 k hk, hk, findMethod_app_left calleeNative extraN name ceeN hn, hn,
    findMethod_app_left calleeEff extraE name ceeE he, he]

theorem c10_rejects_argument_count (retPos : Option Bool) (callerEff calleeEff calleeNative : MethodL) (name : Bytes)
    (sig ceeN : MethodSig) (k : Nat) (hi : methodIndex calleeNative name 0 = some k)
    (hn : findMethod calleeNative name = some ceeN) (h : sig.args.length ≠ ceeN.args.length) :
    ∀ m, anaMethod retPos callerEff calleeEff calleeNative name sig ≠ .ok m := by
  intro m hok
  obtain ⟨_, _, _, _, hl, _⟩ := anaMethod_ok_inv hi hn hok
  exact h hl

theorem c10_rejects_changed_type (retPos : Option Bool) (callerEff calleeEff calleeNative : MethodL) (name : Bytes)
    (sig ceeN ceeE cerE : MethodSig) (k : Nat) (hi : methodIndex calleeNative name 0 = some k)
    (hn : findMethod calleeNative name = some ceeN) (he : findMethod calleeEff name = some ceeE)
    (hc : findMethod callerEff name = some cerE)
    (h : diff cerE.ret ceeE.ret true ≠ .same) :
    ∀ m, anaMethod retPos callerEff calleeEff calleeNative name sig ≠ .ok m := by
  intro m hok
  obtain ⟨ceeE', cerE', he', hc', _, _, _, _, hd, _⟩ := anaMethod_ok_inv hi hn hok
  cases he.symm.trans he'
  cases hc.symm.trans hc'
  exact h hd

/-- the argument/return value transfer at the negotiated version `k`: `W` is the definition on the writing
    side, `R` the one on the reading side -/
theorem c10_value_transfer (cfg : Cfg) (env : UserFns) (R W : Ty) (k : Nat) (x wv : V) (bs r : Bytes)
    (hext : encExt (saveWire W k) (wireOf R k) = true)
    (hp : proj W k x = .ok wv) (hs : save W k x = .ok bs)
    (hw : wfW (wireOf R k) = true) (hl : lim cfg (wireOf R k) wv = true) :
    load cfg env R k (bs ++ r) = .ok (fill env R k wv, r) :=
  load_save cfg env W R k x wv bs r hext hp hs hw hl

end Sfv
