/-
  Sfv.Props.C18 — Writing an older version yields data the older definition reads.

  `B` is the current definition (version n), `A` the definition that was current at version `k ≤ n`.
  `c18_downgrade`      : if everything `saveWire B k` encodes is encoded identically by `wireOf A k`
                         (`encExt`, checked for every zoo family), then what `B` writes at `k` is read by `A`
                         as `fill env A k` of the projected value, consuming exactly the bytes written.
  `c18_writer_*`       : field addition and `AbiRemoved` removal leave the *writer's* grammar of every older
                         version unchanged (later fields omitted), at any position.
  `c18_abi_removed`    : at a version where an `AbiRemoved` field is alive the writer emits the constructed
                         value; `c18_later_field_omitted`: a field added later is not written.
  `c18_variant_absent` : a variant that does not exist at the written version is refused (the Rust code
                         panics with "variant … is not present in version …").
  `c18_packed_gate`    : the packed fast path is only taken at versions at which every version-gated field
                         is present and every removed one absent, and then memory equals the encoding at that
                         version (C04).
-/
import Sfv.Lemmas.Evolve
import Sfv.Props.C04
namespace Sfv

theorem c18_downgrade (cfg : Cfg) (env : UserFns) (A B : Ty) (k : Nat) (x wv : V) (bs r : Bytes)
    (hext : encExt (saveWire B k) (wireOf A k) = true)
    (hp : proj B k x = .ok wv) (hs : save B k x = .ok bs)
    (hw : wfW (wireOf A k) = true) (hl : lim cfg (wireOf A k) wv = true) :
    load cfg env A k (bs ++ r) = .ok (fill env A k wv, r) :=
  load_save cfg env B A k x wv bs r hext hp hs hw hl

theorem c18_writer_add_field (pre suf : FieldL) (a : FieldAttr) (t : Ty) (as : AsL) (n k : Nat) (hk : k < n)
    (hr : a.r.lo = n) :
    saveFields (pre.app (.cons a t as suf)) k = saveFields (pre.app suf) k :=
  saveFields_splice k pre (.cons a t as .nil) .nil suf (by
    have : a.r.has k = false := VerRange.not_has_iff.2 (.inl (hr ▸ hk))
    dsimp only [saveFields]
    simp only [this, Bool.false_eq_true, if_false, ite_self])

theorem c18_writer_remove_field (pre suf : FieldL) (a : FieldAttr) (t : Ty) (as : AsL) (n k : Nat)
    (hk : k < n) (hhi : a.r.hi ≥ n - 1) :
    saveFields (pre.app (.cons { a with rm := .abi, r := ⟨a.r.lo, n - 1⟩ } t as suf)) k
      = saveFields (pre.app (.cons a t as suf)) k :=
  saveFields_splice k pre (.cons _ t as .nil) (.cons a t as .nil) suf (by
    dsimp only [saveFields]
    rw [VerRange.has_close hk hhi])

/-- an `AbiRemoved` field alive at the written version is filled with the constructed value -/
theorem c18_abi_removed (a : FieldAttr) (t : Ty) (as : AsL) (fs : FieldL) (k : Nat) (x : V) (xs rest : VL)
    (hig : a.ignore = false) (hh : a.r.has k = true) (hrm : a.rm = .abi) (hr : projFields fs k xs = .ok rest) :
    projFields (.cons a t as fs) k (.cons x xs) = .ok (.cons a.ctor rest) := by
  dsimp only [projFields]
  simp [hig, hh, hrm, hr]

/-- a field added after the written version is omitted -/
theorem c18_later_field_omitted (a : FieldAttr) (t : Ty) (as : AsL) (fs : FieldL) (k : Nat) (x : V) (xs : VL)
    (hig : a.ignore = false) (hh : a.r.has k = false) :
    projFields (.cons a t as fs) k (.cons x xs) = projFields fs k xs := by
  dsimp only [projFields]
  simp [hig, hh]

/-- a plain `Removed` field alive at the written version cannot be written (documented: use `AbiRemoved`) -/
theorem c18_removed_alive_refused (a : FieldAttr) (t : Ty) (as : AsL) (fs : FieldL) (k : Nat) (x : V) (xs : VL)
    (hig : a.ignore = false) (hh : a.r.has k = true) (hrm : a.rm = .removed) :
    projFields (.cons a t as fs) k (.cons x xs) = .error .removedAlive := by
  dsimp only [projFields]
  simp [hig, hh, hrm]

theorem c18_variant_absent (n : String) (r : VerRange) (d : Option Nat) (fs : FieldL) (vs : VariantL) (k : Nat) (l : VL)
    (hh : r.has k = false) : projVariant (.cons n r d fs vs) k 0 l = .error .variantAbsent := by
  dsimp only [projVariant]
  simp [hh]

theorem c18_packed_gate (name : String) (repr : ReprAttr) (lay : Lay) (fs : FieldL) (k : Nat) (x : V) (mem bs : Bytes)
    (hk : k ≤ u32Max) (hd : d2Free (.struct name repr lay fs) = true) (hw : wfLay (.struct name repr lay fs) = true)
    (hp : isPacked (.struct name repr lay fs) k = true)
    (hm : MemOK (.struct name repr lay fs) x mem) (hs : save (.struct name repr lay fs) k x = .ok bs) :
    fieldsOK fs k = true ∧ mem = bs :=
  ⟨(c04_version_gate name repr lay fs k hk (Bool.and_eq_true_iff.1 hw).1 hp).1, c04_sound _ k x mem bs hk hp hd hw hm hs⟩

/-- non-vacuity: `B` (field `b` AbiRemoved after 0, `d` added at 2) written at version 0 is what `A` reads -/
example :
    let A : Ty := .struct "T" .c {} (.cons { name := "a" } (.prim .u16) .nil (.cons { name := "b" } (.prim .u16) .nil .nil))
    let B : Ty := .struct "T" .c {}
      (.cons { name := "a" } (.prim .u16) .nil
      (.cons { name := "b", r := ⟨0, 0⟩, rm := .abi, ctor := .num 0 } (.prim .u16) .nil
      (.cons { name := "d", r := ⟨2, u32Max⟩ } (.prim .u64) .nil .nil)))
    encExt (saveWire B 0) (wireOf A 0) = true := by
  decide

end Sfv
