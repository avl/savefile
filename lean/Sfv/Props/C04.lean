/-
  Sfv.Props.C04 — The packed fast path is transparent and only taken for padding-free layouts.

  `isPacked` mirrors `Packed::repr_c_optimization_safe(v)` condition for condition (library impls and
  the derive macro) on top of the *measured* layout, whatever field order rustc picked.

  `c04_sound`          : if the code judges `T` packed at `v`, then EVERY memory consistent with `T`'s layout
                         (padding bytes arbitrary) equals the field-by-field encoding of the value at `v` —
                         so there is no padding, fields are in wire order, and writing raw memory is
                         unobservable.  Hypotheses: descriptor sanity (`wfLay`), `v` is a u32, and `d2Free`.
  `c04_d2_counterexample` : without `d2Free` the statement is false (KNOWN FINDING D2): a `#[repr(u8)]` enum
                         mixing unit and field variants is judged packed, yet a unit variant leaves a byte of
                         padding that the raw write emits.
  `c04_bulk_write`     : the bulk write of a sequence (length word + raw memory of all elements) equals
                         the element-wise encoding.
  `c04_bulk_read`      : reading in place gives the same result as reading element by element, on every
                         valid encoding.
  `c04_version_gate`   : a struct is only judged packed at versions at which all its version-gated fields
                         are present and all removed ones absent.
  `c04_region`         : the deferred same-alignment region write: fields that are pairwise adjacent in
                         memory, in declaration order, form a region equal to the concatenation of their images.
-/
import Sfv.Lemmas.PackedImage
namespace Sfv

theorem c04_sound (T : Ty) (v : Nat) (x : V) (mem bs : Bytes) (hv : v ≤ u32Max)
    (hp : isPacked T v = true) (hd : d2Free T = true) (hw : wfLay T = true)
    (hm : MemOK T x mem) (hs : save T v x = .ok bs) : mem = bs := by
  obtain ⟨wv, hq, he⟩ := save_ok hs
  exact packed_image v hv T x mem wv bs hp hd hw hm hq he

/-- D2: `#[repr(u8)] enum E { A, B(u8) }` (size 2, `B`'s field at offset 1) is judged packed, but the
    memory of `E::A` with an arbitrary padding byte is not its one-byte encoding. -/
theorem c04_d2_counterexample :
    let T : Ty := .enum "E" (.int 1) { size := 2, align := 1 }
      (.cons "A" .all none .nil (.cons "B" .all none (.cons { name := "x0", off := 1 } (.prim .u8) .nil .nil) .nil))
    isPacked T 0 = true ∧ wfLay T = true ∧ MemOK T (.alt 0 (.tup .nil)) [0, 0xe0]
      ∧ save T 0 (.alt 0 (.tup .nil)) = .ok [0] ∧ d2Free T = false := by
  intro T
  refine ⟨by decide, rfl, ⟨rfl, rfl, trivial⟩, ?_, rfl⟩
  have hp : proj T 0 (.alt 0 (.tup .nil)) = .ok (.alt 0 (.tup .nil)) := rfl
  dsimp only [save, T, saveWire, saveVariants, saveFields] at hp ⊢
  simp [hp, enc, encAlt, encProd, leBytes, tagWidth, ReprAttr.explicitSize]

/-- bulk write of `Vec<T>`-likes: length word followed by the raw memory of the elements -/
theorem c04_bulk_write (t : Ty) (v : Nat) (l : VL) (mem bs : Bytes) (hv : v ≤ u32Max)
    (hp : isPacked t v = true) (hd : d2Free t = true) (hw : wfLay t = true)
    (hm : AllCat (MemOK t) l mem) (hs : save (.seq .vec t) v (.seq l) = .ok bs) :
    bs = leBytes 8 l.length ++ mem := by
  obtain ⟨wv, hproj, he⟩ := save_ok hs
  obtain ⟨wl, hq, rfl⟩ := exceptMap_ok hproj
  dsimp only [saveWire] at he
  simp only [enc] at he
  split at he
  · obtain ⟨body, hbody, rfl⟩ := Option.map_eq_some_iff.1 he
    rw [allcat_eq (fun x mem wv bs => packed_image v hv t x mem wv bs hp hd hw) l mem wl body hm hq hbody,
      mapMVL_length l wl hq]
  · cases he

/-- reading in place agrees with reading element-wise on everything the encoder produces -/
theorem c04_bulk_read (cfg : Cfg) (w : W) (v : V) (bs r : Bytes)
    (h : enc w v = some bs) (hw : wfW w = true) (hl : lim cfg w v = true) :
    dec cfg true w (bs ++ r) = dec cfg false w (bs ++ r) := by
  rw [rt cfg w v true bs r h hw hl, rt cfg w v false bs r h hw hl]

theorem c04_version_gate (name : String) (repr : ReprAttr) (lay : Lay) (fs : FieldL) (v : Nat) (hv : v ≤ u32Max)
    (hw : wfLayF fs = true) (hp : isPacked (.struct name repr lay fs) v = true) :
    fieldsOK fs v = true ∧ v ≥ minSafeFields fs := by
  obtain ⟨hok, hms, _⟩ := isPacked_struct hv hw hp
  exact ⟨hok, hms⟩

/-- adjacent spans in declaration order: each ends where the next begins -/
def adjacent : List (Nat × Nat) → Bool
  | (o, s) :: (o', s') :: rest => decide (o + s = o') && adjacent ((o', s') :: rest)
  | _ => true

def totalSize : List (Nat × Nat) → Nat
  | [] => 0
  | (_, s) :: rest => s + totalSize rest

theorem c04_region (mem : Bytes) : ∀ (spans : List (Nat × Nat)) (o s : Nat),
    adjacent ((o, s) :: spans) = true → o + s + totalSize spans ≤ mem.length →
    slice mem o (s + totalSize spans) = slice mem o s ++ (spans.map (fun p => slice mem p.1 p.2)).flatten
  | [], o, s, _, _ => by simp [totalSize]
  | (o', s') :: rest, o, s, ha, hb => by
    simp only [adjacent, Bool.and_eq_true, decide_eq_true_eq] at ha
    simp only [totalSize] at hb ⊢
    rw [List.map_cons, List.flatten_cons, ← c04_region mem rest o' s' ha.2 (by omega), ← ha.1, slice, slice, slice,
      List.take_add, List.drop_drop]

/-- non-vacuity of `c04_sound`: a packed `#[repr(C)] struct { a: u32, b: u16, c: u16 }` and a memory for it -/
example :
    let T : Ty := .struct "P" .c { size := 8, align := 4 }
      (.cons { name := "a", off := 0 } (.prim .u32) .nil
      (.cons { name := "b", off := 4 } (.prim .u16) .nil
      (.cons { name := "c", off := 6 } (.prim .u16) .nil .nil)))
    isPacked T 0 = true ∧ d2Free T = true ∧ wfLay T = true
      ∧ MemOK T (.tup (.cons (.num 1) (.cons (.num 2) (.cons (.num 3) .nil)))) [1,0,0,0, 2,0, 3,0] := by
  refine ⟨by decide, rfl, rfl, rfl, ?_⟩
  dsimp only [MemOK, MemOKFields, memSize, Prim.memSize, Prim.wireWidth]
  decide

end Sfv
