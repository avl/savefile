/-
  Sfv.Props.C07 — Truncated files are never accepted as different data.

  Core argument (`c07_prefix_general`): a loader whose success is independent of what follows the
  bytes it consumed (`*_mono`) and which consumes a complete file exactly cannot succeed on a strict
  prefix of that file.  Instances: the wire grammar, `load` of a type at a version, and the plain and
  schema-less file containers (header + [schema section] + payload).
-/
import Sfv.Lemmas.Container
import Sfv.Lemmas.RoundTrip
namespace Sfv

/-- If reading `p ++ s` consumes everything and reading is monotone, reading `p` alone cannot succeed
    unless `s` is empty. -/
theorem c07_prefix_general {α ε : Type} (f : Bytes → Except ε (α × Bytes))
    (hmono : ∀ p s x r, f p = .ok (x, r) → f (p ++ s) = .ok (x, r ++ s))
    (p s : Bytes) (x : α) (hfull : f (p ++ s) = .ok (x, [])) (hs : s ≠ []) :
    ∀ x' r', f p ≠ .ok (x', r') := by
  intro x' r' hp
  have := (hmono p s x' r' hp).symm.trans hfull
  simp only [Except.ok.injEq, Prod.mk.injEq] at this
  exact hs (List.append_eq_nil_iff.mp this.2).2

/-- wire level: no strict prefix of an encoding decodes -/
theorem c07_wire_prefix (cfg : Cfg) (w : W) (v : V) (u : Bool) (bs p s : Bytes)
    (h : enc w v = some bs) (hw : wfW w = true) (hl : lim cfg w v = true)
    (hsplit : p ++ s = bs) (hs : s ≠ []) :
    ∀ v' r', dec cfg u w p ≠ .ok (v', r') := by
  subst hsplit
  apply c07_prefix_general (dec cfg u w) (fun p s x r hh => dec_mono cfg s w u p x r hh) p s v
  · simpa using rt cfg w v u (p ++ s) [] h hw hl
  · exact hs

/-- file level (plain and schema-less containers): whenever loading the complete file succeeds and
    consumes it entirely, loading any strict prefix fails — it never yields a value, in particular
    never a different one.  (`hsc`: the schema-section reader is monotone; discharged for the real format
    by `c13_reader_monotone`, giving `c13_plain_file_prefix` without hypotheses on the reader.) -/
theorem c07_file_prefix {S} (cfg : Cfg) (env : UserFns) (sc : SchemaCodec S) (expected : Option (Nat → S))
    (T : Ty) (memVer : Nat) (p s : Bytes) (x : V)
    (hsc : ∀ s lib bs sch r', sc.decS lib bs = .ok (sch, r') → sc.decS lib (bs ++ s) = .ok (sch, r' ++ s))
    (hfull : loadFile cfg env sc expected T memVer (p ++ s) = .ok (x, []))
    (hs : s ≠ []) :
    ∀ x' r', loadFile cfg env sc expected T memVer p ≠ .ok (x', r') :=
  c07_prefix_general (loadFile cfg env sc expected T memVer)
    (fun p s x r hh => loadFile_mono cfg env sc expected T memVer p s x r (hsc s) hh) p s x hfull hs

/-- the header alone: every strict prefix of the 16 header bytes is rejected with `eof`-class failure or
    a header error, never accepted -/
theorem c07_header_prefix (memVer : Nat) (h : Header) (p s : Bytes)
    (hl : h.lib ≤ currentLibVersion) (hv : h.ver ≤ memVer) (hv32 : h.ver < 2^32)
    (hsplit : p ++ s = encHeader h) (hs : s ≠ []) :
    ∀ h' r', decHeader memVer p ≠ .ok (h', r') := by
  apply c07_prefix_general (decHeader memVer) (fun p s x r hh => decHeader_mono memVer p s x r hh) p s h
  · rw [hsplit]
    simpa using decHeader_encHeader h memVer [] hl hv hv32
  · exact hs

/-- non-vacuity: a concrete encoding and a strict prefix of it -/
example : enc (.seq {} (.fixed 2)) (.seq (.cons (.num 7) .nil)) = some [1,0,0,0,0,0,0,0,7,0]
    ∧ ([1,0,0,0,0,0,0,0,7] : Bytes) ++ [0] = [1,0,0,0,0,0,0,0,7,0] := by
  constructor
  · simp [enc, encAll, cat2, leBytes, overCap, VL.length]
  · rfl

end Sfv
