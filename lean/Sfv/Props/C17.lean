/-
  Sfv.Props.C17 — Introspection is self-consistent and navigation never panics.

  (a) reported number of children = number of children that can be fetched by index
      `c17_impl_sound`       : the decidable criterion `IImpl.ok` implies `introspect_len` equals the number of
                               children served, for every value (`IImpl.Consistent`), given the same for the
                               inner value — so it holds for every composed type by induction on the type.
      `c17_table`            : every `Introspect` impl of savefile/src/lib.rs, as classified from the *current*
                               source by tools/translate.py, meets the criterion (no impl is `unknown`).
      `c17_len_children`     : hence every library impl is consistent.
      `c17_derived`          : a derived impl serving k fields reports k; `c17_derive_facts` ties the shape of
                               the generated code (consecutive indices, `#field_count`) to the current macro source.
  (b) navigation
      `c17_nav_never_panics` : `do_introspect` reaches none of the panic sites (`unwrap` of the taken command,
                               `path.pop().unwrap()`), from *any* path state, for any tree, limit and command.
      `c17_history`          : therefore along any command sequence no step panics, and every result satisfies
                               the flat-index law.
      `c17_flat`             : for every result `do_introspect` returns, `total_index(i)` never panics (index
                               arithmetic, vector indexing), yields the i-th element of the depth-first
                               enumeration, and is `Some` exactly for `i < total_len()`.
-/
import Sfv.Lemmas.Introspect
import Sfv.Generated.Introspect
namespace Sfv

/-! ### (a) `introspect_len` vs children served -/

/-- one line for each pairing of `introspect_child` and `introspect_len` that `IImpl.ok` admits, in the order of
    its arms -/
theorem c17_impl_sound (m : Nat) (i : IImpl) (h : i.ok m = true) : i.Consistent m := by
  intro f hf
  obtain ⟨name, child, len⟩ := i
  unfold IImpl.ok at h
  dsimp only at h
  split at h
  · exact ⟨_, rfl, congrArg some (Nat.zero_min _)⟩
  · exact ⟨_, rfl, congrArg some (eq_of_beq h)⟩
  · exact ⟨_, rfl, congrArg some (Nat.mul_comm _ _)⟩
  · exact ⟨_, rfl, rfl⟩
  · exact ⟨_, rfl, congrArg some (Nat.min_eq_left (of_decide_eq_true h))⟩
  · exact ⟨_, rfl, congrArg some (eq_of_beq h).symm⟩
  · refine ⟨_, rfl, congrArg some (Nat.min_eq_left ?_)⟩
    split
    · exact of_decide_eq_true h
    · exact Nat.zero_le _
  · exact ⟨_, rfl, congrArg some hf⟩
  · exact ⟨_, rfl, by simp only [ILen.value, hf]⟩
  · cases h

theorem c17_table :
    Generated.maxChildren = some 10000 ∧ Generated.defaultLenIsCountUpToMax = true
    ∧ Generated.introspectImpls.all (IImpl.ok 10000) = true :=
  ⟨rfl, rfl, by decide⟩

theorem c17_len_children (i : IImpl) (h : i ∈ Generated.introspectImpls) : i.Consistent 10000 :=
  c17_impl_sound 10000 i (List.all_eq_true.mp c17_table.2.2 i h)

/-- a derived impl: `k` index arms `if index == j { return Some(..) }` for j = 0..k-1, `introspect_len` = `k` -/
theorem c17_derived (k : Nat) : ({ name := "derived", child := .consts k, len := .const k } : IImpl).Consistent 10000 :=
  c17_impl_sound 10000 _ (by simp [IImpl.ok])

theorem c17_derive_facts :
    Generated.derive_consecutive = true ∧ Generated.derive_structLen = true ∧ Generated.derive_enumLen = true :=
  ⟨rfl, rfl, rfl⟩

/-- the default `introspect_len` is *not* consistent for containers that can exceed `MAX_CHILDREN`
    (this is why `[T; N]` needs its own `introspect_len`; the table has no such row) -/
example : ¬ ({ name := "x", child := .nth, len := .dflt } : IImpl).Consistent 10000 := by
  intro h
  obtain ⟨c, h1, h2⟩ := h { n := 10001, inner := 0, innerLen := 0, present := true, healthy := true } rfl
  simp [IChild.count] at h1
  subst h1
  simp [ILen.value] at h2

/-! ### (b) navigation -/

theorem c17_nav_never_panics (limit : Nat) (t : ITree) (path : List PathElem) (cmd : NavCmd) (s : NavSite) :
    (doIntrospect limit t path cmd).2 ≠ .error (.panic s) :=
  (doIntrospect_ok limit t path cmd).1 s

theorem c17_flat (limit : Nat) (t : ITree) (path : List PathElem) (cmd : NavCmd) (r : NavResult)
    (h : (doIntrospect limit t path cmd).2 = .ok r) (i : Nat) :
    totalIndex r i = .ok ((flatten r.frames)[i]?)
    ∧ (((flatten r.frames)[i]?).isSome = true ↔ i < r.totalLen) := by
  obtain ⟨hw, _, hlen⟩ := (doIntrospect_ok limit t path cmd).2 r h
  obtain ⟨c, hs, _⟩ := tii_spec r.frames 0 i hw
  rw [Nat.zero_add] at hs
  refine ⟨congrArg Prod.fst hs, ?_⟩
  rw [hlen, ← flatten_length r.frames hw]
  simp

/-- the introspector driven by a command sequence: the results, in order -/
def runCmds (limit : Nat) (t : ITree) : List PathElem → List NavCmd → List (Except NavFail NavResult)
  | _, [] => []
  | path, c :: cs => (doIntrospect limit t path c).2 :: runCmds limit t (doIntrospect limit t path c).1 cs

theorem c17_history (limit : Nat) (t : ITree) : ∀ (cmds : List NavCmd) (path : List PathElem),
    ∀ out ∈ runCmds limit t path cmds,
      (∀ s, out ≠ .error (.panic s))
      ∧ (∀ r, out = .ok r → ∀ i, ∃ x, totalIndex r i = .ok x ∧ (x.isSome = true ↔ i < r.totalLen))
  | [], _ => fun _ => nofun
  | c :: cs, path => fun out hout => by
    obtain rfl | h := List.mem_cons.mp hout
    · exact ⟨c17_nav_never_panics limit t path c, fun r hr i => ⟨_, c17_flat limit t path c r hr i⟩⟩
    · exact c17_history limit t cs _ out h

/-! ### the statements are not vacuous -/

/-- a struct with two fields, the second a two-element vector -/
def exTree : ITree :=
  .node (.cons [97] (.node .nil) (.cons [98] (.node (.cons [48] (.node .nil) (.cons [49] (.node .nil) .nil))) .nil))

/-- selecting child 1 at depth 0 yields two frames, four elements in all -/
example : ∃ r, (doIntrospect noLimit exTree [] (.selectNth 0 1)).2 = .ok r ∧ r.frames.length = 2 ∧ r.totalLen = 4 := by
  refine ⟨_, rfl, ?_, ?_⟩ <;> decide

example : (doIntrospect noLimit exTree [] (.expand 0 [99] 0)).2 = .error (.err .unknownKey) := by rfl
example : (doIntrospect noLimit exTree [] .up).2 = .error (.err .alreadyAtTop) := by rfl

end Sfv
