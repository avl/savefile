/-
  Sfv.Props.C15 — The ABI compatibility ledger accepts compatible and rejects breaking changes.

  `verifyCompatibility` is `savefile_abi::verify_compatiblity` over a directory (files keyed by interface version);
  `verifyBackwardCompatible` is `AbiTraitDefinition::verify_backward_compatible`.  The constants the code uses
  (data version of the definition files, position flag for return values) come from the current source
  (`c15_constants`).

  `c15_first_run`        : on a directory without the interface every version is recorded and nothing is compared
  `c15_unchanged`        : a later run for the unchanged interface succeeds and rewrites nothing — for interfaces
                           with distinct method names whose methods take plain data and return plain data or a
                           future of plain data (async methods); `wfD`: names without '+', sizes within range
  `c15_accepts_new_version` : a run for an interface that gained a version records the new version, keeps the rest
  `c15_accepts_new_methods` : methods added behind the recorded ones are accepted
  `c15_accept_characterised` : a revision is accepted against a recorded definition exactly when every recorded
                           method still exists under its name with the same async flag, the same number of
                           arguments and no differing return or argument type
  `c15_rejects_*`        : hence a removed method, a changed argument count, a changed argument or return type
                           (any difference `diff_schema` reports: C13 shows it reports every change of wire shape)
                           is not accepted
-/
import Sfv.Lemmas.Abi
import Sfv.Generated.Abi
namespace Sfv

theorem c15_constants :
    Generated.ledgerSaveVersion = some 2 ∧ Generated.ledgerLoadVersion = some 2
    ∧ Generated.ledgerReturnPosition = some false
    ∧ Generated.vbcReturnPositionFound = true ∧ Generated.vbcReturnPosition = some true := by
  decide

theorem c15_first_run (cfg : Cfg) (retPos : Option Bool) (defs : Nat → TraitDef) (latest : Nat) :
    verifyCompatibility cfg retPos 2 2 defs latest [] = (newFiles defs 0 (latest + 1), .ok) :=
  ledgerRun_fresh cfg retPos 2 defs (latest + 1) 0 [] (fun _ _ => rfl)

theorem c15_unchanged (cfg : Cfg) (defs : Nat → TraitDef) (latest : Nat)
    (hw : ∀ v ≤ latest, wfD cfg (defs v) = true ∧ plainDef (defs v) = true) :
    verifyCompatibility cfg (some true) 2 2 defs latest (newFiles defs 0 (latest + 1))
      = (newFiles defs 0 (latest + 1), .ok) :=
  (ledgerRun_rerun cfg 2 (Nat.le_refl 2) defs (latest + 1) 0 fun v hv => hw v (Nat.le_of_lt_succ hv)).trans
    (by rw [newFiles, List.append_nil])

/-- the interface gains version `latest + 1`: the recorded versions are compared (unchanged), the new one is recorded -/
theorem c15_accepts_new_version (cfg : Cfg) (defs : Nat → TraitDef) (latest : Nat)
    (hw : ∀ v ≤ latest, wfD cfg (defs v) = true ∧ plainDef (defs v) = true) :
    verifyCompatibility cfg (some true) 2 2 defs (latest + 1) (newFiles defs 0 (latest + 1))
      = (newFiles defs 0 (latest + 1) ++ [(latest + 1, encDefFile 2 (defs (latest + 1)))], .ok) :=
  ledgerRun_rerun cfg 2 (Nat.le_refl 2) defs (latest + 1) 1 fun v hv => hw v (Nat.le_of_lt_succ hv)

theorem c15_accept_characterised (retPos : Option Bool) (name name' : Bytes) (newMs oldMs : MethodL) (sync send : Bool) :
    verifyBackwardCompatible retPos (.mk name newMs sync send) (.mk name' oldMs sync send) false = .ok
      ↔ oldMs.AllP (Kept retPos newMs false) := by
  rw [vbc_same_flags]
  exact verifyMethods_ok_iff retPos newMs false oldMs

theorem c15_accepts_new_methods (retPos : Option Bool) (newMs extra oldMs : MethodL)
    (h : verifyMethods retPos newMs oldMs false = .ok) : verifyMethods retPos (newMs.app extra) oldMs false = .ok :=
  verifyMethods_app retPos newMs extra oldMs false h

/-- a recorded method that no longer exists -/
theorem c15_rejects_removed_method (retPos : Option Bool) (newMs : MethodL) (n : Bytes) (ret : Schema) (rc : Nat)
    (asy : Bool) (args : SchemaL) (rest : MethodL) (h : findMethod newMs n = none) :
    verifyMethods retPos newMs (.cons n ret rc asy args rest) false = .err := by
  simp [verifyMethods, h]

/-- a recorded method whose number of arguments changed -/
theorem c15_rejects_argument_count (retPos : Option Bool) (newMs : MethodL) (n : Bytes) (ret : Schema) (rc : Nat)
    (asy : Bool) (args : SchemaL) (rest : MethodL) (sig : MethodSig) (hf : findMethod newMs n = some sig)
    (h : sig.args.length ≠ args.length) :
    verifyMethods retPos newMs (.cons n ret rc asy args rest) false ≠ .ok :=
  fun hok => h ((kept_iff_of_find hf).mp ((verifyMethods_ok_iff retPos newMs false _).mp hok).1).2.1

/-- a recorded method one of whose types changed (return type, or any argument type) -/
theorem c15_rejects_type_change (retPos : Option Bool) (newMs : MethodL) (n : Bytes) (ret : Schema) (rc : Nat)
    (asy : Bool) (args : SchemaL) (rest : MethodL) (sig : MethodSig) (hf : findMethod newMs n = some sig)
    (h : diff sig.ret ret (retPos.getD false) ≠ .same ∨ diffArgs sig.args args false ≠ .same) :
    verifyMethods retPos newMs (.cons n ret rc asy args rest) false ≠ .ok := by
  intro hok
  obtain ⟨_, _, d1, d2⟩ := (kept_iff_of_find hf).mp ((verifyMethods_ok_iff retPos newMs false _).mp hok).1
  exact h.elim (· d1) (· d2)

/-! ### not vacuous -/

def exDef : TraitDef :=
  .mk [73] (.cons [109] (.prim .u32) 100 false (.cons (.prim .u8) .nil)
           (.cons [110] (.future (.mk [70] (.cons [112] (.prim .u64) 102 false .nil .nil) false false) true false false) 100 true .nil .nil)) false true

example : plainDef exDef = true := by decide
example : wfD {} exDef = true := by decide

end Sfv
