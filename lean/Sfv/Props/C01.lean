/-
  Sfv.Props.C01 — Round-trip fidelity.

  `c01_wire_roundtrip`  : on the wire grammar, decoding the encoder's output (followed by anything)
                           returns the value and leaves exactly the remainder (exact consumption).
  `c01_load_save`       : the same for a type descriptor at a data version: what `save T v` wrote,
                           `load T v` reads back as `fill (proj x)`, consuming exactly those bytes.
  Both hold in the checked and in the bulk (in-place) reading mode, for every nesting of
  collections, options, results, tuples, arrays, structs and enums, with no bound on sizes.
-/
import Sfv.Lemmas.Evolve
namespace Sfv

/-- C01 on the wire grammar. Hypotheses: the grammar's bulk annotations are truthful (`wfW`, discharged
    by `c04` for grammars compiled from types) and the value respects the documented size limits of the
    configuration (`lim`; vacuous when `size_sanity_checks` is off and sizes are below `isize::MAX`). -/
theorem c01_wire_roundtrip (cfg : Cfg) (w : W) (v : V) (u : Bool) (bs r : Bytes)
    (h : enc w v = some bs) (hw : wfW w = true) (hl : lim cfg w v = true) :
    dec cfg u w (bs ++ r) = .ok (v, r) :=
  rt cfg w v u bs r h hw hl

/-- exact consumption: with nothing after the encoding, nothing is left -/
theorem c01_consumes_exactly (cfg : Cfg) (w : W) (v : V) (bs : Bytes)
    (h : enc w v = some bs) (hw : wfW w = true) (hl : lim cfg w v = true) :
    dec cfg false w bs = .ok (v, []) := by
  simpa using rt cfg w v false bs [] h hw hl

/-- C01 for a type descriptor at a version where reader and writer use the same grammar
    (no `savefile_versions_as` range covers `v`; true for the current version of every type). -/
theorem c01_load_save (cfg : Cfg) (env : UserFns) (T : Ty) (v : Nat) (x wv : V) (bs r : Bytes)
    (hp : proj T v x = .ok wv) (hs : save T v x = .ok bs)
    (hsame : saveWire T v = wireOf T v)
    (hw : wfW (wireOf T v) = true) (hl : lim cfg (wireOf T v) wv = true) :
    load cfg env T v (bs ++ r) = .ok (fill env T v wv, r) :=
  load_save cfg env T T v x wv bs r (hsame ▸ encExt_refl _) hp hs hw hl

/-- non-vacuity: a nested value meeting every hypothesis -/
example :
    let w : W := .prod (.cons (.fixed 2) (.cons (.seq { bulk := some (1, 1) } .bool) (.cons (.opt (.str none)) .nil)))
    let v : V := .tup (.cons (.num 513) (.cons (.seq (.cons (.num 1) (.cons (.num 0) .nil))) (.cons (.some (.bytes [104, 105])) .nil)))
    enc w v = some [1, 2, 2, 0, 0, 0, 0, 0, 0, 0, 1, 0, 1, 2, 0, 0, 0, 0, 0, 0, 0, 104, 105]
      ∧ wfW w = true ∧ lim {} w v = true := by
  intro w v
  refine ⟨?_, ?_, ?_⟩
  · simp [w, v, enc, encProd, encAll, cat2, leBytes, validUtf8, overCap, VL.length]
  · simp [w, wfW, wfWL, fixedSize]
  · simp [w, v, lim, limProd, limAll, VL.length]

end Sfv
