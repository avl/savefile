/-
  Sfv.Model.SchemaWf — well-formedness of schema values (what a `Schema` built by real code satisfies),
  the normal form a schema takes after a trip through format `v`, and the fuel a reader needs.
-/
import Sfv.Model.Schema
namespace Sfv

def wfName (cfg : Cfg) (b : Bytes) : Bool :=
  validUtf8 b && decide (b.length < 2^64) && (!cfg.sanity || decide (b.length ≤ 1000000))

def wfOpt : Option Nat → Bool
  | none => true
  | some n => decide (n < 2^64)

def noPlus (b : Bytes) : Bool := b.all (fun c => c != 43)

def wfCount (cfg : Cfg) (n : Nat) : Bool := decide (n < 2^64) && (!cfg.sanity || decide (n ≤ 1000000))

mutual
def wfS (cfg : Cfg) : Schema → Bool
  | .struct name size align fs => wfName cfg name && wfOpt size && wfOpt align && decide (fs.length < 2^64) && wfSF cfg fs
  | .enum name vs dsize _ size align =>
    wfName cfg name && decide (vs.length < 2^64) && decide (dsize < 256) && wfOpt size && wfOpt align && wfSV cfg vs
  | .prim _ => true
  | .vector t _ => wfS cfg t
  | .array t n => decide (n < 2^64) && wfS cfg t
  | .option t => wfS cfg t
  | .custom s => wfName cfg s
  | .boxed t => wfS cfg t
  | .slice t => wfS cfg t
  | .reference t => wfS cfg t
  | .trait _ d => wfD cfg d
  | .fnClosure _ d => wfD cfg d
  | .recursion n => decide (n < 2^64)
  | .future d _ _ _ => wfD cfg d
  | _ => true
def wfSF (cfg : Cfg) : SFieldL → Bool
  | .nil => true
  | .cons name t off rest => wfName cfg name && wfS cfg t && wfOpt off && wfSF cfg rest
def wfSV (cfg : Cfg) : SVariantL → Bool
  | .nil => true
  | .cons name discr fs rest =>
    wfName cfg name && decide (discr < 256) && decide (fs.length < 2^64) && wfSF cfg fs && wfSV cfg rest
def wfD (cfg : Cfg) : TraitDef → Bool
  | .mk name ms sync send =>
    noPlus name && wfName cfg (effectiveName name sync send) && wfCount cfg ms.length && wfM cfg ms
def wfM (cfg : Cfg) : MethodL → Bool
  | .nil => true
  | .cons name ret recv _ args rest =>
    wfName cfg name && wfS cfg ret && receiverOk recv && wfCount cfg args.length && wfSL cfg args && wfM cfg rest
def wfSL (cfg : Cfg) : SchemaL → Bool
  | .nil => true
  | .cons s rest => wfS cfg s && wfSL cfg rest
end

mutual
/-- what comes back after writing and reading at library format version `v` -/
def normS (v : Nat) : Schema → Schema
  | .struct name size align fs => .struct name (if v > 0 then size else none) (if v > 0 then align else none) (normSF v fs)
  | .enum name vs dsize expl size align =>
    if v > 0 then .enum name (normSV v vs) dsize expl size align else .enum name (normSV v vs) 1 false none none
  | .prim (.str l) => .prim (.str (if v > 0 then l else .unknown))
  | .prim p => .prim p
  | .vector t l => .vector (normS v t) (if v > 0 then l else .unknown)
  | .array t n => .array (normS v t) n
  | .option t => .option (normS v t)
  | .boxed t => .boxed (normS v t)
  | .slice t => .slice (normS v t)
  | .reference t => .reference (normS v t)
  | .trait m d => .trait m (normD v d)
  | .fnClosure m d => .fnClosure m (normD v d)
  | .future d a b c => .future (normD v d) a b c
  | s => s
def normSF (v : Nat) : SFieldL → SFieldL
  | .nil => .nil
  | .cons name t off rest => .cons name (normS v t) (if v > 0 then off else none) (normSF v rest)
def normSV (v : Nat) : SVariantL → SVariantL
  | .nil => .nil
  | .cons name discr fs rest => .cons name discr (normSF v fs) (normSV v rest)
def normD (v : Nat) : TraitDef → TraitDef
  | .mk name ms sync send => .mk name (normM v ms) sync send
def normM (v : Nat) : MethodL → MethodL
  | .nil => .nil
  | .cons name ret recv isAsync args rest =>
    .cons name (normS v ret) (if v ≥ 2 then recv else 100) (if v ≥ 2 then isAsync else false) (normSL v args) (normM v rest)
def normSL (v : Nat) : SchemaL → SchemaL
  | .nil => .nil
  | .cons s rest => .cons (normS v s) (normSL v rest)
end

mutual
/-- fuel that suffices to read a schema back -/
def sizeS : Schema → Nat
  | .struct _ _ _ fs => 1 + sizeSF fs
  | .enum _ vs _ _ _ _ => 1 + sizeSV vs
  | .vector t _ => 1 + sizeS t
  | .array t _ => 1 + sizeS t
  | .option t => 1 + sizeS t
  | .boxed t => 1 + sizeS t
  | .slice t => 1 + sizeS t
  | .reference t => 1 + sizeS t
  | .trait _ d => 1 + sizeD d
  | .fnClosure _ d => 1 + sizeD d
  | .future d _ _ _ => 1 + sizeD d
  | _ => 1
def sizeSF : SFieldL → Nat
  | .nil => 0
  | .cons _ t _ rest => 1 + sizeS t + sizeSF rest
def sizeSV : SVariantL → Nat
  | .nil => 0
  | .cons _ _ fs rest => 1 + sizeSF fs + sizeSV rest
def sizeD : TraitDef → Nat
  | .mk _ ms _ _ => 1 + sizeM ms
def sizeM : MethodL → Nat
  | .nil => 0
  | .cons _ ret _ _ args rest => 1 + sizeS ret + sizeSL args + sizeM rest
def sizeSL : SchemaL → Nat
  | .nil => 0
  | .cons s rest => 1 + max (sizeS s) (sizeSL rest)   -- a one-byte schema pays for one list cell only
end

end Sfv
