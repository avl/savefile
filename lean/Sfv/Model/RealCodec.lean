/-
  Sfv.Model.RealCodec — the container's schema section instantiated with the real schema format
  (`Sfv.Model.Schema`) and the real comparison (`Sfv.Model.SchemaDiff`).
-/
import Sfv.Model.Container
import Sfv.Model.SchemaDiff
namespace Sfv

/-- the schema codec the container uses: stored bytes are decoded at the file's library version and
    compared with `diff_schema(memory, file)` -/
def realSchemaCodec (cfg : Cfg) : SchemaCodec Schema :=
  { encS := encSchema
    decS := fun lib bs => decSchema cfg lib (bs.length + 1) bs
    compat := fun mem file => diff mem file false == .same }

end Sfv
