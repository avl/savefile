/-
  Sfv.Lemmas.WireRead — the wire decoder as sequential compositions: for every clause of `dec`, `decProd` and
  `repeatDec` the equation that says which readers it runs one after the other (`DecR.andThen`). What holds of a
  decoder because it holds of its parts (Lemmas/Mono, Lemmas/Safe) is shown on these equations.
-/
import Sfv.Lemmas.Bytes
namespace Sfv

/-- the `n` bytes of a string: `read_exact`, then the UTF-8 check -/
def readUtf8 (n : Nat) (r : Bytes) : DecR V :=
  match takeN n r with
  | none => .error (.err .eof)
  | some (b, r') => if validUtf8 b then .ok (.bytes b, r') else .error (.err .utf8)

variable (cfg : Cfg) (u : Bool)

/- The two sides of each equation differ only in which `match` auxiliary stands at a layer (the model's own or
   that of `andThen`); the elaborator compares these by unfolding them only when smart unfolding is off. -/

theorem repeatDec_succ (f : Bytes → DecR V) (n : Nat) : repeatDec f (n + 1) = fun bs =>
    (f bs).andThen fun v r => (repeatDec f n r).andThen fun vs r => .ok (.cons v vs, r) := by
  funext bs
  conv => lhs; unfold repeatDec
  set_option smartUnfolding false in rfl

theorem dec_fixed (k : Nat) : dec cfg u (.fixed k) = fun bs =>
    (readLE k bs).andThen fun n r => .ok (.num n, r) := by
  funext bs
  conv => lhs; unfold dec
  set_option smartUnfolding false in rfl

theorem dec_bool : dec cfg u .bool = fun bs =>
    (readLE 1 bs).andThen fun n r =>
    if u then (if n < 2 then .ok (.num n, r) else .error (.ub .bulkBool))
    else .ok (.num (if n = 1 then 1 else 0), r) := by
  funext bs
  conv => lhs; unfold dec
  set_option smartUnfolding false in rfl

theorem dec_char : dec cfg u .char = fun bs =>
    (readLE 4 bs).andThen fun n r =>
    if validChar n then .ok (.num n, r)
    else if u then .error (.ub .bulkChar) else .error (.err .badchar) := by
  funext bs
  conv => lhs; unfold dec
  set_option smartUnfolding false in rfl

theorem dec_str (cap : Option Nat) : dec cfg u (.str cap) = fun bs =>
    (readLE 8 bs).andThen fun n r =>
    if overCap cap n then .error (.err .capacity)
    else if cfg.sanity && cap.isNone && decide (n > 1000000) then .error (.err .general)
    else readUtf8 n r := by
  funext bs
  conv => lhs; unfold dec
  unfold readUtf8
  set_option smartUnfolding false in rfl

theorem dec_seq (m : SeqMode) (t : W) : dec cfg u (.seq m t) = fun bs =>
    (readLE 8 bs).andThen fun n r =>
    if overCap m.cap n then .error (.err .capacity)
    else match m.bulk with
      | some (esz, al) =>
        if n = 0 then .ok (.seq .nil, r)
        else if esz * n ≥ 2^64 && m.cap.isNone then
          (if cfg.quirkMulOverflow then .error (.panic .mulOverflow) else .error (.err .alloc))
        else if esz * n > 2^63 - al && m.cap.isNone then .error (.err .alloc)
        else if esz * n > r.length then .error (.err .eof)
        else (repeatDec (dec cfg true t) n r).andThen fun l r => .ok (.seq l, r)
      | none =>
        if cfg.sanity && m.limit && decide (n > 1000000) then .error (.err .general)
        else (repeatDec (dec cfg u t) n r).andThen fun l r => .ok (.seq l, r) := by
  funext bs
  conv => lhs; unfold dec
  set_option smartUnfolding false in rfl

theorem dec_opt (t : W) : dec cfg u (.opt t) = fun bs =>
    (readLE 1 bs).andThen fun n r =>
    if n = 1 then (dec cfg u t r).andThen fun v r => .ok (.some v, r) else .ok (.none, r) := by
  funext bs
  conv => lhs; unfold dec
  set_option smartUnfolding false in rfl

theorem dec_res (a b : W) : dec cfg u (.res a b) = fun bs =>
    (readLE 1 bs).andThen fun n r =>
    if n = 1 then (dec cfg u a r).andThen fun v r => .ok (.alt 1 v, r)
    else (dec cfg u b r).andThen fun v r => .ok (.alt 0 v, r) := by
  funext bs
  conv => lhs; unfold dec
  set_option smartUnfolding false in rfl

theorem dec_prod (ts : WL) : dec cfg u (.prod ts) = fun bs =>
    (decProd cfg u ts bs).andThen fun l r => .ok (.tup l, r) := by
  funext bs
  conv => lhs; unfold dec
  set_option smartUnfolding false in rfl

theorem dec_rep (n : Nat) (t : W) : dec cfg u (.rep n none t) = fun bs =>
    (repeatDec (dec cfg u t) n bs).andThen fun l r => .ok (.tup l, r) := by
  funext bs
  conv => lhs; unfold dec
  set_option smartUnfolding false in rfl

theorem dec_rep_bulk (n esz : Nat) (t : W) : dec cfg u (.rep n (some esz) t) = fun bs =>
    if esz * n > bs.length then .error (.err .eof)
    else (repeatDec (dec cfg true t) n bs).andThen fun l r => .ok (.tup l, r) := by
  funext bs
  conv => lhs; unfold dec
  set_option smartUnfolding false in rfl

theorem dec_tagged (w : Nat) (alts : WL) : dec cfg u (.tagged w alts) = fun bs =>
    (readLE w bs).andThen fun i r => (decAlt cfg u alts i r).andThen fun v r => .ok (.alt i v, r) := by
  funext bs
  conv => lhs; unfold dec
  set_option smartUnfolding false in rfl

theorem dec_canary : dec cfg u .canary = fun bs =>
    (readLE 4 bs).andThen fun n r =>
    if n = canaryMagic then .ok (.tup .nil, r) else .error (.err .general) := by
  funext bs
  conv => lhs; unfold dec
  set_option smartUnfolding false in rfl

theorem dec_sysTime : dec cfg u .sysTime = fun bs =>
    (readLE 16 bs).andThen fun n r =>
    match sysTimeCanon n with
    | some c => .ok (.num c, r)
    | none => if cfg.quirkSysTimePanic then .error (.panic .sysTime) else .error (.err .timestamp) := by
  funext bs
  conv => lhs; unfold dec
  set_option smartUnfolding false in rfl

theorem decProd_cons (t : W) (ts : WL) : decProd cfg u (.cons t ts) = fun bs =>
    (dec cfg u t bs).andThen fun v r => (decProd cfg u ts r).andThen fun vs r => .ok (.cons v vs, r) := by
  funext bs
  conv => lhs; unfold decProd
  set_option smartUnfolding false in rfl

end Sfv
