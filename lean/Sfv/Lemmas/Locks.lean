/-
  Sfv.Lemmas.Locks — lock-order discipline: no deadlock, mutual exclusion, every run finishes, and every
  thread obtains the template a sequential execution would have given it.
-/
import Sfv.Model.Locks
namespace Sfv

theorem Lock.rank_lt (l : Lock) : l.rank < 3 := by cases l <;> decide

theorem ordered_held_nonempty_prog {p : List Instr} {held : List Lock} {l : Lock}
    (h : Ordered p held) (hl : l ∈ held) : p ≠ [] := by
  rintro rfl
  rw [show held = [] from h] at hl
  cases hl

/-- ordered programs compose: the first ends holding nothing, which is where the second starts -/
theorem Ordered.append {p q : List Instr} (hq : Ordered q []) :
    ∀ {held : List Lock}, Ordered p held → Ordered (p ++ q) held := by
  induction p with
  | nil => intro held h; rw [show held = [] from h]; exact hq
  | cons i p ih =>
    intro held h
    cases i with
    | work => exact ih h
    | _ => exact ⟨h.1, ih h.2⟩

/-- only a thread about to take a lock can be kept from moving -/
theorem enabled_or_acq (ts : List Thread) {t : Thread} (hne : t.prog ≠ []) :
    Enabled ts t ∨ ∃ l rest, t.prog = .acq l :: rest := by
  unfold Enabled
  cases hp : t.prog with
  | nil => exact absurd hp hne
  | cons i rest =>
    cases i with
    | acq l => exact .inr ⟨l, rest, rfl⟩
    | _ => exact .inl trivial

theorem enabled_acq {ts : List Thread} {t : Thread} {l : Lock} {rest : List Instr} (hp : t.prog = .acq l :: rest) :
    Enabled ts t ↔ ∀ u ∈ ts, l ∉ u.held := by
  unfold Enabled; rw [hp]

/-- The rank argument.  Whoever holds the lock `l` that a thread waits for is unfinished, since nothing is held
    at the end of an ordered program, and either can move or waits for a lock that ranks above all it holds,
    `l` among them.  Ranks are below 3, so this ends (`n` bounds how far the rank of the awaited lock can still
    rise) with a thread that can move, at the latest one whose lock is free. -/
theorem waiter_unblocks {ts : List Thread} (hwf : WF ts) :
    ∀ (n : Nat) {t : Thread} {l : Lock} {rest : List Instr}, t ∈ ts → t.prog = .acq l :: rest → 3 ≤ l.rank + n →
      ∃ u ∈ ts, Enabled ts u
  | 0, _, l, _, _, _, h => absurd l.rank_lt (Nat.not_lt.mpr h)
  | n + 1, t, l, _, ht, hp, h => by
    by_cases held : ∃ u ∈ ts, l ∈ u.held
    · obtain ⟨u, hu, hl⟩ := held
      have ho := hwf u hu
      obtain he | ⟨l', rest', hp'⟩ := enabled_or_acq ts (ordered_held_nonempty_prog ho hl)
      · exact ⟨u, hu, he⟩
      · rw [hp'] at ho
        have := ho.1 l hl
        exact waiter_unblocks hwf n hu hp' (by omega)
    · exact ⟨t, ht, (enabled_acq hp).mpr fun u hu hl => held ⟨u, hu, hl⟩⟩

/-- progress: as long as some thread is unfinished, some thread can move -/
theorem no_deadlock (ts : List Thread) (hwf : WF ts) (t0 : Thread) (ht0 : t0 ∈ ts) (hne : t0.prog ≠ []) :
    ∃ t ∈ ts, Enabled ts t := by
  obtain he | ⟨l, rest, hp⟩ := enabled_or_acq ts hne
  · exact ⟨t0, ht0, he⟩
  · exact waiter_unblocks hwf 3 ht0 hp (Nat.le_add_left 3 _)

/-! ### what a step changes: one thread, by `setThread`

  `WF` and `ResultsOK` say something of every thread, `countHeld` and `remaining` are sums over the threads. -/

theorem setThread_eq_set : ∀ (ts : List Thread) (i : Nat) (t : Thread), setThread ts i t = ts.set i t
  | [], _, _ => rfl
  | _ :: _, 0, _ => rfl
  | u :: ts, i + 1, t => congrArg (u :: ·) (setThread_eq_set ts i t)

theorem forall_mem_setThread {P : Thread → Prop} {ts : List Thread} {i : Nat} {t : Thread}
    (h : ∀ x ∈ ts, P x) (ht : P t) : ∀ x ∈ setThread ts i t, P x := by
  intro x hx
  rw [setThread_eq_set] at hx
  obtain hx | rfl := List.mem_or_eq_of_mem_set hx
  · exact h x hx
  · exact ht

theorem sum_map_setThread (f : Thread → Nat) : ∀ {ts : List Thread} {i : Nat} {t : Thread} (t' : Thread),
    ts[i]? = some t → ((setThread ts i t').map f).sum + f t = (ts.map f).sum + f t'
  | [], _, _, _, h => nomatch h
  | u :: ts, 0, t, t', h => by
    cases h
    simp only [setThread, List.map_cons, List.sum_cons]
    rw [Nat.add_right_comm, Nat.add_comm (f t'), Nat.add_right_comm]
  | u :: ts, i + 1, t, t', h => by
    simp only [setThread, List.map_cons, List.sum_cons]
    rw [Nat.add_assoc, sum_map_setThread f t' (List.getElem?_cons_succ ▸ h), Nat.add_assoc]

theorem count_le_countHeld : ∀ (ts : List Thread) (t : Thread) (l : Lock), t ∈ ts → t.held.count l ≤ countHeld ts l
  | u :: ts, t, l, h => by
    obtain rfl | h := List.mem_cons.mp h
    · exact Nat.le_add_right ..
    · exact Nat.le_trans (count_le_countHeld ts t l h) (Nat.le_add_left ..)

theorem countHeld_eq_zero {ts : List Thread} {l : Lock} (h : ∀ u ∈ ts, l ∉ u.held) : countHeld ts l = 0 := by
  unfold countHeld
  rw [List.sum_eq_zero_iff_forall_eq_nat]
  intro n hn
  obtain ⟨u, hu, rfl⟩ := List.mem_map.mp hn
  exact List.count_eq_zero.mpr (h u hu)

theorem CacheOK.cons {compute : Nat → Nat} {l : List (Nat × Nat)} {k v : Nat} (hv : v = compute k)
    (h : CacheOK compute l) : CacheOK compute ((k, v) :: l) := by
  intro k' v' hm
  obtain e | hm := List.mem_cons.mp hm
  · cases e; exact hv
  · exact h k' v' hm

theorem lookupOr_ok (compute : Nat → Nat) (cache : List (Nat × Nat)) (k : Nat) (h : CacheOK compute cache) :
    (lookupOr compute cache k).1 = compute k ∧ CacheOK compute (lookupOr compute cache k).2 := by
  unfold lookupOr
  split
  next v hl =>
    obtain ⟨l₁, l₂, rfl, _⟩ := List.lookup_eq_some_iff.mp hl
    exact ⟨h k v (List.mem_append_right _ (List.mem_cons_self ..)), h⟩
  next => exact ⟨rfl, h.cons rfl⟩

/-- One step of an enabled thread, read off instruction by instruction.  The only lock it can come to hold once
    more is the one it takes, which `Enabled` found free.  A thread's `results` are faithful in the sense of
    `CacheOK`: `ResultsOK` says so of every thread. -/
theorem stepThread_spec (compute : Nat → Nat) {ts : List Thread} {t : Thread} (cache : List (Nat × Nat))
    (he : Enabled ts t) {r : Thread × List (Nat × Nat)} (hr : stepThread compute t cache = r) :
    (Ordered t.prog t.held → Ordered r.1.prog r.1.held)
    ∧ r.1.prog.length + 1 = t.prog.length
    ∧ (∀ l, r.1.held.count l ≤ t.held.count l ∨ r.1.held.count l = t.held.count l + 1 ∧ ∀ u ∈ ts, l ∉ u.held)
    ∧ (CacheOK compute cache → CacheOK compute t.results → CacheOK compute r.2 ∧ CacheOK compute r.1.results) := by
  subst hr
  unfold Enabled at he
  unfold stepThread
  cases hp : t.prog with
  | nil => rw [hp] at he; exact he.elim
  | cons ins rest =>
    rw [hp] at he
    cases ins with
    | acq l' =>
      refine ⟨fun h => h.2, rfl, fun l => ?_, fun hc hr => ⟨hc, hr⟩⟩
      by_cases e : l' = l
      · subst e; exact .inr ⟨List.count_cons_self, he⟩
      · exact .inl (Nat.le_of_eq (List.count_cons_of_ne e))
    | rel l' => exact ⟨fun h => h.2, rfl, fun l => .inl (List.erase_sublist.count_le l), fun hc hr => ⟨hc, hr⟩⟩
    | work => exact ⟨id, rfl, fun _ => .inl (Nat.le_refl _), fun hc hr => ⟨hc, hr⟩⟩
    | getOrInsert k =>
      refine ⟨fun h => h.2, rfl, fun _ => .inl (Nat.le_refl _), fun hc hr => ?_⟩
      obtain ⟨h1, h2⟩ := lookupOr_ok compute cache k hc
      exact ⟨h2, hr.cons h1⟩

/-- `n` steps lead from `s` to `s'` -/
inductive Run (compute : Nat → Nat) : Nat → LState → LState → Prop where
  | refl (s : LState) : Run compute 0 s s
  | step (n : Nat) (s s' s'' : LState) : Run compute n s s' → Step compute s' s'' → Run compute (n + 1) s s''

structure Inv (compute : Nat → Nat) (s : LState) : Prop where
  wf : WF s.threads
  excl : Excl s.threads
  cache : CacheOK compute s.cache
  results : ResultsOK compute s.threads

/-- every step keeps the invariant and executes exactly one instruction -/
theorem step_inv {compute : Nat → Nat} {s s' : LState} (hs : Step compute s s') (h : Inv compute s) :
    Inv compute s' ∧ remaining s'.threads + 1 = remaining s.threads := by
  cases hs with
  | mk i t hi he =>
    have ht := List.mem_of_getElem? hi
    generalize hr : stepThread compute t s.cache = r
    obtain ⟨ho, hlen, hcnt, hres⟩ := stepThread_spec compute s.cache he hr
    obtain ⟨hc, hres⟩ := hres h.cache (h.results t ht)
    refine ⟨⟨forall_mem_setThread h.wf (ho (h.wf t ht)), fun l => ?_, hc, forall_mem_setThread h.results hres⟩, ?_⟩
    · have hsum : countHeld (setThread s.threads i r.1) l + t.held.count l = countHeld s.threads l + r.1.held.count l :=
        sum_map_setThread (·.held.count l) r.1 hi
      have hx := h.excl l
      show countHeld (setThread s.threads i r.1) l ≤ 1
      obtain hle | ⟨heq, hfree⟩ := hcnt l
      · omega
      · have := countHeld_eq_zero hfree
        omega
    · have hsum : remaining (setThread s.threads i r.1) + t.prog.length = remaining s.threads + r.1.prog.length :=
        sum_map_setThread (·.prog.length) r.1 hi
      show remaining (setThread s.threads i r.1) + 1 = remaining s.threads
      omega

theorem run_inv (compute : Nat → Nat) (n : Nat) (s s' : LState) (hr : Run compute n s s') (hi : Inv compute s) :
    Inv compute s' ∧ remaining s'.threads + n = remaining s.threads := by
  induction hr with
  | refl s => exact ⟨hi, rfl⟩
  | step n s s' s'' _ hs ih =>
    obtain ⟨hi', hrem⟩ := ih hi
    obtain ⟨hi'', hrem'⟩ := step_inv hs hi'
    exact ⟨hi'', by omega⟩

theorem can_step (compute : Nat → Nat) (s : LState) (hi : Inv compute s) (hnf : ¬ Finished s.threads) :
    ∃ s', Step compute s s' := by
  obtain ⟨t0, h⟩ := Classical.not_forall.mp hnf
  obtain ⟨ht0, hne⟩ := Classical.not_imp.mp h
  obtain ⟨t, ht, he⟩ := no_deadlock s.threads hi.wf t0 ht0 hne
  obtain ⟨i, hi'⟩ := List.getElem?_of_mem ht
  exact ⟨_, Step.mk s i t hi' he⟩

theorem finished_iff_remaining (ts : List Thread) : Finished ts ↔ remaining ts = 0 := by
  unfold Finished remaining
  rw [List.sum_eq_zero_iff_forall_eq_nat]
  simp only [List.mem_map, forall_exists_index, and_imp, forall_apply_eq_imp_iff₂, List.length_eq_zero_iff]

end Sfv
