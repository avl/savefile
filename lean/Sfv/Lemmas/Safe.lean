import Sfv.Lemmas.WireRead
namespace Sfv

mutual
/- no value of this grammar has an invalid bit pattern: safe to reinterpret raw bytes as it -/
def nicheFree : W → Bool
  | .fixed _ => true
  | .prod ts => nicheFreeL ts
  | .rep _ _ t => nicheFree t
  | _ => false
def nicheFreeL : WL → Bool
  | .nil => true
  | .cons t ts => nicheFree t && nicheFreeL ts
end

mutual
/- every bulk-read element type is niche free -/
def safeBulk : W → Bool
  | .seq m t => safeBulk t && (m.bulk.isNone || nicheFree t)
  | .opt t => safeBulk t
  | .res a b => safeBulk a && safeBulk b
  | .prod ts => safeBulkL ts
  | .rep _ bulk t => safeBulk t && (bulk.isNone || nicheFree t)
  | .tagged _ alts => safeBulkL alts
  | _ => true
def safeBulkL : WL → Bool
  | .nil => true
  | .cons t ts => safeBulk t && safeBulkL ts
end

def Fail.isErr : Fail → Bool
  | .err _ => true
  | _ => false

def Cfg.repaired (cfg : Cfg) : Bool := !cfg.quirkMulOverflow && !cfg.quirkSysTimePanic

/-- every failure of `f` is an ordinary error: no panic, no invalid value -/
def ErrOnly {α : Type} (f : Bytes → DecR α) : Prop :=
  ∀ bs e, f bs = .error e → e.isErr = true

namespace ErrOnly
variable {α β : Type}

theorem ok (a : α) : ErrOnly (fun r => .ok (a, r)) :=
  fun _ _ h => nomatch h

theorem error {e : Fail} (he : e.isErr = true) : ErrOnly (fun _ => (.error e : DecR α)) :=
  fun _ _ h => Except.error.inj h ▸ he

theorem andThen {x : Bytes → DecR α} {k : α → Bytes → DecR β} (hx : ErrOnly x) (hk : ∀ a, ErrOnly (k a)) :
    ErrOnly (fun bs => (x bs).andThen k) := by
  intro bs e (h : (x bs).andThen k = _)
  cases hxb : x bs with
  | error e' => rw [hxb] at h; cases h; exact hx _ _ hxb
  | ok p => rw [hxb] at h; exact hk _ _ _ h

/-- the condition may look at what is left (a length guard) -/
theorem ite {c : Bytes → Prop} [∀ r, Decidable (c r)] {f g : Bytes → DecR α} (hf : ErrOnly f) (hg : ErrOnly g) :
    ErrOnly (fun r => if c r then f r else g r) := by
  intro bs e h
  by_cases hc : c bs
  · exact hf bs e ((if_pos hc).symm.trans h)
  · exact hg bs e ((if_neg hc).symm.trans h)

end ErrOnly

theorem readLE_errOnly (k : Nat) : ErrOnly (readLE k) := by
  intro bs e h
  unfold readLE at h
  split at h <;> cases h
  rfl

theorem readUtf8_errOnly (n : Nat) : ErrOnly (readUtf8 n) := by
  intro bs e h
  unfold readUtf8 at h
  split at h
  · cases h; rfl
  · split at h <;> cases h
    rfl

theorem repeatDec_errOnly {f : Bytes → DecR V} (hf : ErrOnly f) : ∀ n, ErrOnly (repeatDec f n)
  | 0 => .ok _
  | n+1 => repeatDec_succ f n ▸ .andThen hf fun _ => .andThen (repeatDec_errOnly hf n) fun _ => .ok _

/-- Reading a grammar without invalid bit patterns in place is reading it checked: the two modes differ
    only where such a pattern is met. This is why the bulk path is safe on `safeBulk` grammars. -/
theorem dec_nicheFree (cfg : Cfg) :
    (∀ w, nicheFree w = true → dec cfg true w = dec cfg false w)
    ∧ (∀ ts, nicheFreeL ts = true → decProd cfg true ts = decProd cfg false ts) := by
  refine nicheFree.mutual_induct _ _ ?fixed ?prod ?rep ?other ?nil ?cons
  case fixed => intro k _; funext bs; unfold dec; rfl
  case prod => intro ts ih h; funext bs; unfold dec; rw [ih h]
  case rep => intro n bulk t ih h; funext bs; unfold dec; rw [ih h]
  -- `rw [nicheFree]` uses the catch-all equation; its side goals (`w` is none of the three shapes) are the case's hypotheses
  case other => intro w _ _ _ h; rw [nicheFree] at h <;> first | cases h | assumption
  case nil => intro _; rfl
  case cons =>
    intro t ts ih1 ih2 h
    simp only [nicheFreeL, Bool.and_eq_true] at h
    funext bs; unfold decProd; rw [ih1 h.1, ih2 h.2]

theorem Cfg.repaired_iff {cfg : Cfg} : cfg.repaired = true ↔ cfg.quirkMulOverflow = false ∧ cfg.quirkSysTimePanic = false := by
  simp [Cfg.repaired]

/- In a repaired build no panic site is reachable, and the checked mode materialises no invalid value: each
   decoder is the composition its equation names, of readers that fail with ordinary errors only and of
   literals that are ordinary errors; a bulk arm reads a niche-free grammar, so in effect checked
   (`dec_nicheFree`). -/
mutual
theorem dec_errOnly (cfg : Cfg) (hc : cfg.repaired = true) : ∀ (w : W), safeBulk w = true → ErrOnly (dec cfg false w)
  | .fixed k, _ => dec_fixed cfg false k ▸ .andThen (readLE_errOnly k) fun _ => .ok _
  | .bool, _ => dec_bool cfg false ▸ .andThen (readLE_errOnly 1) fun _ => .ok _
  | .char, _ => dec_char cfg false ▸ .andThen (readLE_errOnly 4) fun _ => .ite (.ok _) (.error rfl)
  | .str cap, _ => dec_str cfg false cap ▸ .andThen (readLE_errOnly 8) fun n =>
    .ite (.error rfl) (.ite (.error rfl) (readUtf8_errOnly n))
  | .seq m t, hs => by
    simp only [safeBulk, Bool.and_eq_true, Bool.or_eq_true] at hs
    have el := repeatDec_errOnly (dec_errOnly cfg hc t hs.1)
    rw [dec_seq, (Cfg.repaired_iff.1 hc).1]
    refine .andThen (readLE_errOnly 8) fun n => .ite (.error rfl) ?_
    cases hb : m.bulk with
    | none => exact .ite (.error rfl) (.andThen (el n) fun _ => .ok _)
    | some p =>
      rw [(dec_nicheFree cfg).1 t (by simpa [hb] using hs.2)]
      -- guard by guard as in `dec_reads`; with the quirk flag rewritten the overflow arm is
      -- `if false = true then … else .error (.err .alloc)`, which reduces to its else-literal, so `.error rfl` fits
      exact .ite (.ok _) (.ite (.error rfl) (.ite (.error rfl) (.ite (.error rfl) (.andThen (el n) fun _ => .ok _))))
  | .opt t, hs => dec_opt cfg false t ▸ .andThen (readLE_errOnly 1) fun _ =>
    .ite (.andThen (dec_errOnly cfg hc t hs) fun _ => .ok _) (.ok _)
  | .res a b, hs => by
    simp only [safeBulk, Bool.and_eq_true] at hs
    rw [dec_res]
    exact .andThen (readLE_errOnly 1) fun _ => .ite
      (.andThen (dec_errOnly cfg hc a hs.1) fun _ => .ok _) (.andThen (dec_errOnly cfg hc b hs.2) fun _ => .ok _)
  | .prod ts, hs => dec_prod cfg false ts ▸ .andThen (decProd_errOnly cfg hc ts hs) fun _ => .ok _
  | .rep n none t, hs => by
    simp only [safeBulk, Bool.and_eq_true] at hs
    rw [dec_rep]
    exact .andThen (repeatDec_errOnly (dec_errOnly cfg hc t hs.1) n) fun _ => .ok _
  | .rep n (some esz) t, hs => by
    simp only [safeBulk, Bool.and_eq_true, Bool.or_eq_true] at hs
    rw [dec_rep_bulk, (dec_nicheFree cfg).1 t (by simpa using hs.2)]
    exact .ite (.error rfl) (.andThen (repeatDec_errOnly (dec_errOnly cfg hc t hs.1) n) fun _ => .ok _)
  | .tagged w alts, hs => dec_tagged cfg false w alts ▸ .andThen (readLE_errOnly w) fun i =>
    .andThen (decAlt_errOnly cfg hc alts hs i) fun _ => .ok _
  | .canary, _ => dec_canary cfg false ▸ .andThen (readLE_errOnly 4) fun _ => .ite (.ok _) (.error rfl)
  | .sysTime, _ => by
    rw [dec_sysTime, (Cfg.repaired_iff.1 hc).2]
    refine .andThen (readLE_errOnly 16) fun n => ?_
    cases sysTimeCanon n
    · exact .error rfl
    · exact .ok _
theorem decProd_errOnly (cfg : Cfg) (hc : cfg.repaired = true) : ∀ (ts : WL), safeBulkL ts = true →
    ErrOnly (decProd cfg false ts)
  | .nil, _ => .ok _
  | .cons t ts, hs => by
    simp only [safeBulkL, Bool.and_eq_true] at hs
    rw [decProd_cons]
    exact .andThen (dec_errOnly cfg hc t hs.1) fun _ => .andThen (decProd_errOnly cfg hc ts hs.2) fun _ => .ok _
theorem decAlt_errOnly (cfg : Cfg) (hc : cfg.repaired = true) : ∀ (alts : WL), safeBulkL alts = true →
    ∀ i, ErrOnly (decAlt cfg false alts i)
  | .nil, _, _ => .error rfl
  | .cons t _, hs, 0 => by
    simp only [safeBulkL, Bool.and_eq_true] at hs
    exact dec_errOnly cfg hc t hs.1
  | .cons _ ts, hs, i+1 => by
    simp only [safeBulkL, Bool.and_eq_true] at hs
    exact decAlt_errOnly cfg hc ts hs.2 i
end

theorem dec_safe (cfg : Cfg) (hc : cfg.repaired = true) : ∀ (w : W) (u : Bool) (bs : Bytes) (e : Fail),
    safeBulk w = true → (u = true → nicheFree w = true) → dec cfg u w bs = .error e → e.isErr = true
  | w, false, bs, e, hs, _, h => dec_errOnly cfg hc w hs bs e h
  | w, true, bs, e, hs, hn, h => dec_errOnly cfg hc w hs bs e ((dec_nicheFree cfg).1 w (hn rfl) ▸ h)

theorem decProd_safe (cfg : Cfg) (hc : cfg.repaired = true) : ∀ (ts : WL) (u : Bool) (bs : Bytes) (e : Fail),
    safeBulkL ts = true → (u = true → nicheFreeL ts = true) → decProd cfg u ts bs = .error e → e.isErr = true
  | ts, false, bs, e, hs, _, h => decProd_errOnly cfg hc ts hs bs e h
  | ts, true, bs, e, hs, hn, h => decProd_errOnly cfg hc ts hs bs e ((dec_nicheFree cfg).2 ts (hn rfl) ▸ h)

theorem decAlt_safe (cfg : Cfg) (hc : cfg.repaired = true) : ∀ (alts : WL) (i : Nat) (bs : Bytes) (e : Fail),
    safeBulkL alts = true → decAlt cfg false alts i bs = .error e → e.isErr = true :=
  fun alts i bs e hs h => decAlt_errOnly cfg hc alts hs i bs e h

end Sfv
