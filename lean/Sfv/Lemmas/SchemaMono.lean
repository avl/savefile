/-
  Sfv.Lemmas.SchemaMono — the schema reader does not look beyond what it consumes: a successful read stays the
  same read when bytes are appended (and when more fuel is given).
-/
import Sfv.Lemmas.SchemaRead
namespace Sfv

/-! The leaf readers have no equation in `andThen` form; their monotonicity follows the successful read `h`. -/

/- `read_step` of Lemmas/Bytes under a name local to this file: one `match X with | .error e => .error e | .ok (a, r) => …`
   layer; the error branch contradicts `h`, the success branch rewrites the goal with the monotonicity of `X` -/
set_option hygiene false in
local macro "bindstep " lem:term : tactic => `(tactic| (
  split at h
  cases h
  rename_i _a _r hx
  rw [$lem hx]
  simp only))

variable {cfg : Cfg} {v : Nat} {s : Bytes}

theorem readStr_mono : Mono s (readStr cfg) (readStr cfg) := by
  intro bs x r h
  unfold readStr at h ⊢
  bindstep readLE_mono s
  split at h
  · cases h
  · rename_i hsan
    rw [if_neg hsan]
    split at h
    · cases h
    · next b r' ht =>
      rw [takeN_mono s ht]
      split at h
      · rename_i hu
        cases h
        simp only [hu, if_true]
      · cases h

theorem readOptNat_mono : Mono s readOptNat readOptNat := by
  intro bs x r h
  unfold readOptNat at h ⊢
  bindstep readLE_mono s
  split at h
  · rename_i ht
    rw [if_pos ht]
    bindstep readLE_mono s
    exact Mono.ok _ _ _ _ h
  · rename_i ht
    rw [if_neg ht]
    exact Mono.ok _ _ _ _ h

theorem readBool_mono : Mono s readBool readBool := by
  intro bs x r h
  unfold readBool at h ⊢
  bindstep readLE_mono s
  exact Mono.ok _ _ _ _ h

theorem primOfCode_mono {c : Nat} : Mono s (primOfCode cfg v c) (primOfCode cfg v c) := by
  intro bs x r h
  unfold primOfCode at h ⊢
  split at h
  -- the fifteen codes that read nothing more
  all_goals try (cases h; rfl)
  · split at h
    · rename_i hv
      rw [if_pos hv]
      bindstep readLE_mono s
      exact Mono.ok _ _ _ _ h
    · rename_i hv
      rw [if_neg hv]
      exact Mono.ok _ _ _ _ h
  · cases h

theorem readRecv_mono : Mono s (readRecv v) (readRecv v) :=
  .ite (.andThen .readLE fun _ => .ite (.andThen readBool_mono fun _ => .ok _) (.error _ _)) (.ok _)

/-- all six readers: a success at fuel `g` is the same success at fuel `g'` with `s` appended to the input -/
structure MonoAt (cfg : Cfg) (v : Nat) (s : Bytes) (g g' : Nat) : Prop where
  S : Mono s (decSchema cfg v g) (decSchema cfg v g')
  F : ∀ n, Mono s (decFields cfg v g n) (decFields cfg v g' n)
  V : ∀ n, Mono s (decVariants cfg v g n) (decVariants cfg v g' n)
  D : Mono s (decDef cfg v g) (decDef cfg v g')
  M : ∀ n, Mono s (decMethods cfg v g n) (decMethods cfg v g' n)
  L : ∀ n, Mono s (decSchemaL cfg v g n) (decSchemaL cfg v g' n)

variable {g g' : Nat}

theorem decTagged_mono (m : MonoAt cfg v s g g') : ∀ tag, Mono s (decTagged cfg v g tag) (decTagged cfg v g' tag)
  | 1 => .andThen readStr_mono fun _ => .andThen .readLE fun n => .ite
      (.andThen readOptNat_mono fun _ => .andThen readOptNat_mono fun _ => .andThen (m.F n) fun _ => .ok _)
      (.andThen (m.F n) fun _ => .ok _)
  | 2 => .andThen readStr_mono fun _ => .andThen .readLE fun n => .andThen (m.V n) fun _ => .ite
      (.andThen .readLE fun _ => .andThen readBool_mono fun _ => .andThen readOptNat_mono fun _ =>
        .andThen readOptNat_mono fun _ => .ok _)
      (.ok _)
  | 3 => .andThen .readLE fun _ => .andThen primOfCode_mono fun _ => .ok _
  | 4 => .andThen m.S fun _ => .ite (.andThen .readLE fun _ => .ok _) (.ok _)
  | 5 | 6 | 13 | 17 | 19 | 20 => .ok _
  | 7 | 10 | 12 | 14 => .andThen m.S fun _ => .ok _
  | 8 => .andThen .readLE fun _ => .andThen m.S fun _ => .ok _
  | 9 => .andThen readStr_mono fun _ => .ok _
  | 11 | 15 => .andThen readBool_mono fun _ => .andThen m.D fun _ => .ok _
  | 16 => .andThen .readLE fun _ => .ok _
  | 18 => .andThen .readLE fun _ => .andThen m.D fun _ => .ok _
  | 0 | _ + 21 => .error _ _

/-- One unit of fuel more on both sides: each reader is the composition its equation names, of readers that are
    monotone by themselves or by `m`. -/
theorem MonoAt.succ (m : MonoAt cfg v s g g') : MonoAt cfg v s (g + 1) (g' + 1) where
  S := by
    rw [decSchema_succ, decSchema_succ]
    exact .andThen .readLE (decTagged_mono m)
  F
    | 0 => fun _ _ _ h => by
      unfold decFields at h ⊢
      exact Mono.ok _ _ _ _ h
    | n + 1 => by
      rw [decFields_succ, decFields_succ]
      exact .andThen readStr_mono fun _ => .andThen m.S fun _ => .ite
        (.andThen readOptNat_mono fun _ => .andThen (m.F n) fun _ => .ok _)
        (.andThen (m.F n) fun _ => .ok _)
  V
    | 0 => fun _ _ _ h => by
      unfold decVariants at h ⊢
      exact Mono.ok _ _ _ _ h
    | n + 1 => by
      rw [decVariants_succ, decVariants_succ]
      exact .andThen readStr_mono fun _ => .andThen .readLE fun _ => .andThen .readLE fun nf =>
        .andThen (m.F nf) fun _ => .andThen (m.V n) fun _ => .ok _
  D := by
    rw [decDef_succ, decDef_succ]
    refine .andThen readStr_mono fun full => ?_
    cases parseTraitName full with
    | none => exact .error _ _
    | some p => exact .andThen .readLE fun n => .ite (.error _ _) (.andThen (m.M n) fun _ => .ok _)
  M
    | 0 => fun _ _ _ h => by
      unfold decMethods at h ⊢
      exact Mono.ok _ _ _ _ h
    | n + 1 => by
      rw [decMethods_succ, decMethods_succ]
      exact .andThen readStr_mono fun _ => .andThen m.S fun _ => .andThen readRecv_mono fun _ =>
        .andThen .readLE fun na => .ite (.error _ _) (.andThen (m.L na) fun _ => .andThen (m.M n) fun _ => .ok _)
  L
    | 0 => fun _ _ _ h => by
      unfold decSchemaL at h ⊢
      exact Mono.ok _ _ _ _ h
    | n + 1 => by
      rw [decSchemaL_succ, decSchemaL_succ]
      exact .andThen m.S fun _ => .andThen (m.L n) fun _ => .ok _

theorem monoAt (cfg : Cfg) (v : Nat) (s : Bytes) : ∀ g g', g ≤ g' → MonoAt cfg v s g g'
  | 0, g', _ =>
    { S := fun _ _ _ h => by unfold decSchema at h; cases h
      F := fun n _ _ _ h => by cases n <;> unfold decFields at h ⊢ <;> cases h; rfl
      V := fun n _ _ _ h => by cases n <;> unfold decVariants at h ⊢ <;> cases h; rfl
      D := fun _ _ _ h => by unfold decDef at h; cases h
      M := fun n _ _ _ h => by cases n <;> unfold decMethods at h ⊢ <;> cases h; rfl
      L := fun n _ _ _ h => by cases n <;> unfold decSchemaL at h ⊢ <;> cases h; rfl }
  | g + 1, 0, h => absurd h (Nat.not_succ_le_zero g)
  | g + 1, g' + 1, h => (monoAt cfg v s g g' (Nat.le_of_succ_le_succ h)).succ

/-- the schema reader is monotone in the bytes that follow and in its fuel -/
theorem decSchema_mono (cfg : Cfg) (v : Nat) (s bs : Bytes) (f f' : Nat) (x : Schema) (r : Bytes)
    (h : decSchema cfg v f bs = .ok (x, r)) (hf : f ≤ f') : decSchema cfg v f' (bs ++ s) = .ok (x, r ++ s) :=
  (monoAt cfg v s f f' hf).S _ _ _ h

end Sfv
