/-
  Sfv.Lemmas.SchemaRead — the schema readers as sequential compositions.

  The six readers of `Sfv.Model.Schema` are nests of `match x with | .error e => .error e | .ok (a, r) => …`.
  `DecR.andThen` (Lemmas/Bytes) names one such layer, and every reader gets the equation that says which readers it runs one
  after the other. What holds of a reader because it holds of its parts (Lemmas/SchemaMono) or because each
  part reads what the writer wrote (Lemmas/SchemaRt) is then shown layer by layer on these equations.
-/
import Sfv.Model.Schema
import Sfv.Lemmas.Bytes
namespace Sfv

/-- what `decSchema` reads after the tag byte, its parts with fuel `f` -/
def decTagged (cfg : Cfg) (v f : Nat) : Nat → Bytes → DecR Schema
  | 1, r =>
    (readStr cfg r).andThen fun name r => (readLE 8 r).andThen fun n r =>
    if v > 0 then
      (readOptNat r).andThen fun size r => (readOptNat r).andThen fun align r =>
      (decFields cfg v f n r).andThen fun fs r => .ok (.struct name size align fs, r)
    else (decFields cfg v f n r).andThen fun fs r => .ok (.struct name none none fs, r)
  | 2, r =>
    (readStr cfg r).andThen fun name r => (readLE 8 r).andThen fun n r =>
    (decVariants cfg v f n r).andThen fun vs r =>
    if v > 0 then
      (readLE 1 r).andThen fun dsize r => (readBool r).andThen fun expl r =>
      (readOptNat r).andThen fun size r => (readOptNat r).andThen fun align r =>
      .ok (.enum name vs dsize expl size align, r)
    else .ok (.enum name vs 1 false none none, r)
  | 3, r => (readLE 1 r).andThen fun c r => (primOfCode cfg v c r).andThen fun p r => .ok (.prim p, r)
  | 4, r =>
    (decSchema cfg v f r).andThen fun t r =>
    if v > 0 then (readLE 1 r).andThen fun l r => .ok (.vector t (VLayout.ofCode l), r)
    else .ok (.vector t .unknown, r)
  | 5, r => .ok (.undefined, r)
  | 6, r => .ok (.zeroSize, r)
  | 7, r => (decSchema cfg v f r).andThen fun t r => .ok (.option t, r)
  | 8, r => (readLE 8 r).andThen fun n r => (decSchema cfg v f r).andThen fun t r => .ok (.array t n, r)
  | 9, r => (readStr cfg r).andThen fun s r => .ok (.custom s, r)
  | 10, r => (decSchema cfg v f r).andThen fun t r => .ok (.boxed t, r)
  | 11, r => (readBool r).andThen fun m r => (decDef cfg v f r).andThen fun d r => .ok (.fnClosure m d, r)
  | 12, r => (decSchema cfg v f r).andThen fun t r => .ok (.slice t, r)
  | 13, r => .ok (.str, r)
  | 14, r => (decSchema cfg v f r).andThen fun t r => .ok (.reference t, r)
  | 15, r => (readBool r).andThen fun m r => (decDef cfg v f r).andThen fun d r => .ok (.trait m d, r)
  | 16, r => (readLE 8 r).andThen fun n r => .ok (.recursion n, r)
  | 17, r => .ok (.stdIoError, r)
  | 18, r =>
    (readLE 1 r).andThen fun mask r => (decDef cfg v f r).andThen fun d r =>
    .ok (.future d (mask % 2 == 1) ((mask / 2) % 2 == 1) ((mask / 4) % 2 == 1), r)
  | 19, r => .ok (.uninitSlice, r)
  | 20, r => .ok (.utcTimestamp, r)
  | _, _ => .error (.err .general)

/-- receiver and async flag of a method, on file from format 2 on -/
def readRecv (v : Nat) (r : Bytes) : DecR (Nat × Bool) :=
  if v ≥ 2 then
    (readLE 1 r).andThen fun rc r =>
    if receiverOk rc then (readBool r).andThen fun a r => .ok ((rc, a), r) else .error (.err .wrongVersion)
  else .ok ((100, false), r)

/- The two sides of each equation differ only in which `match` auxiliary stands at a layer (the model's own or
   that of `andThen`); the elaborator compares these by unfolding them only when smart unfolding is off. -/

theorem decSchema_succ (cfg : Cfg) (v f : Nat) :
    decSchema cfg v (f + 1) = fun bs => (readLE 1 bs).andThen (decTagged cfg v f) := by
  funext bs
  conv => lhs; unfold decSchema
  -- the tag `match` of `decSchema` has to meet `decTagged`'s own, so that one is opened too
  unfold decTagged DecR.andThen
  set_option smartUnfolding false in rfl

theorem decSchema_cons (cfg : Cfg) (v f : Nat) (b : UInt8) (bs : Bytes) :
    decSchema cfg v (f + 1) (b :: bs) = decTagged cfg v f b.toNat bs := by
  rw [decSchema_succ]
  rfl

theorem decFields_succ (cfg : Cfg) (v f n : Nat) :
    decFields cfg v (f + 1) (n + 1) = fun bs =>
      (readStr cfg bs).andThen fun name r => (decSchema cfg v f r).andThen fun t r =>
      if v > 0 then
        (readOptNat r).andThen fun off r => (decFields cfg v f n r).andThen fun rest r => .ok (.cons name t off rest, r)
      else (decFields cfg v f n r).andThen fun rest r => .ok (.cons name t none rest, r) := by
  funext bs
  conv => lhs; unfold decFields
  set_option smartUnfolding false in rfl

theorem decVariants_succ (cfg : Cfg) (v f n : Nat) :
    decVariants cfg v (f + 1) (n + 1) = fun bs =>
      (readStr cfg bs).andThen fun name r => (readLE 1 r).andThen fun discr r => (readLE 8 r).andThen fun nf r =>
      (decFields cfg v f nf r).andThen fun fs r => (decVariants cfg v f n r).andThen fun rest r =>
      .ok (.cons name discr fs rest, r) := by
  funext bs
  conv => lhs; unfold decVariants
  set_option smartUnfolding false in rfl

theorem decDef_succ (cfg : Cfg) (v f : Nat) :
    decDef cfg v (f + 1) = fun bs =>
      (readStr cfg bs).andThen fun full r =>
      match parseTraitName full with
      | none => .error (.err .general)
      | some (name, sync, send) =>
        (readLE 8 r).andThen fun n r =>
        if cfg.sanity && decide (n > 1000000) then .error (.err .general)
        else (decMethods cfg v f n r).andThen fun ms r => .ok (.mk name ms sync send, r) := by
  funext bs
  conv => lhs; unfold decDef
  set_option smartUnfolding false in rfl

theorem decMethods_succ (cfg : Cfg) (v f n : Nat) :
    decMethods cfg v (f + 1) (n + 1) = fun bs =>
      (readStr cfg bs).andThen fun name r => (decSchema cfg v f r).andThen fun ret r =>
      (readRecv v r).andThen fun recv r => (readLE 8 r).andThen fun na r =>
      if cfg.sanity && decide (na > 1000000) then .error (.err .general)
      else
        (decSchemaL cfg v f na r).andThen fun args r => (decMethods cfg v f n r).andThen fun rest r =>
        .ok (.cons name ret recv.1 recv.2 args rest, r) := by
  funext bs
  conv => lhs; unfold decMethods
  unfold readRecv
  set_option smartUnfolding false in rfl

theorem decSchemaL_succ (cfg : Cfg) (v f n : Nat) :
    decSchemaL cfg v (f + 1) (n + 1) = fun bs =>
      (decSchema cfg v f bs).andThen fun s r => (decSchemaL cfg v f n r).andThen fun rest r => .ok (.cons s rest, r) := by
  funext bs
  conv => lhs; unfold decSchemaL
  set_option smartUnfolding false in rfl

end Sfv
