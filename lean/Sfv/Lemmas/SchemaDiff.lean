import Sfv.Model.SchemaWf
import Sfv.Model.SchemaDiff
import Sfv.Lemmas.Bytes
namespace Sfv

/-! ### `diff` against a readable specification of "same wire layout, same variant names" -/

def SPrim.shape : SPrim → Nat
  | p => p.code   -- `str` layouts all share code 9

mutual
/-- same node kinds, primitive kinds, arities, array lengths, discriminant widths and values, variant names,
    `Custom` strings and recursion depths — struct/field/debug names and every memory annotation erased -/
def shapeEq : Schema → Schema → Bool
  | .struct _ _ _ fa, .struct _ _ _ fb => shapeEqF fa fb
  | .enum _ va da _ _ _, .enum _ vb db _ _ _ => decide (da = db) && shapeEqV va vb
  | .prim a, .prim b => a.shape == b.shape
  | .vector a _, .vector b _ => shapeEq a b
  | .option a, .option b => shapeEq a b
  | .zeroSize, .zeroSize => true
  | .array a na, .array b nb => decide (na = nb) && shapeEq a b
  | .custom a, .custom b => decide (a = b)
  | .str, .str => true
  | .utcTimestamp, .utcTimestamp => true
  | .stdIoError, .stdIoError => true
  | .boxed a, .boxed b => shapeEq a b
  | .reference a, .reference b => shapeEq a b
  | .slice a, .slice b => shapeEq a b
  | .recursion a, .recursion b => decide (a = b)
  | .uninitSlice, .uninitSlice => true
  | _, _ => false
def shapeEqF : SFieldL → SFieldL → Bool
  | .nil, .nil => true
  | .cons _ ta _ ra, .cons _ tb _ rb => shapeEq ta tb && shapeEqF ra rb
  | _, _ => false
def shapeEqV : SVariantL → SVariantL → Bool
  | .nil, .nil => true
  | .cons na da fa ra, .cons nb db fb rb => decide (na = nb) && decide (da = db) && shapeEqF fa fb && shapeEqV ra rb
  | _, _ => false
end

mutual
/-- schemas a data file can contain: no `Undefined`, trait, closure or future node -/
def dataS : Schema → Bool
  | .struct _ _ _ fs => dataSF fs
  | .enum _ vs _ _ _ _ => dataSV vs
  | .vector t _ => dataS t
  | .array t _ => dataS t
  | .option t => dataS t
  | .boxed t => dataS t
  | .slice t => dataS t
  | .reference t => dataS t
  | .undefined => false
  | .trait _ _ => false
  | .fnClosure _ _ => false
  | .future _ _ _ _ => false
  | _ => true
def dataSF : SFieldL → Bool
  | .nil => true
  | .cons _ t _ rest => dataS t && dataSF rest
def dataSV : SVariantL → Bool
  | .nil => true
  | .cons _ _ fs rest => dataSF fs && dataSV rest
end

theorem andThen_same {a b : DiffR} : a.andThen b = .same ↔ a = .same ∧ b = .same := by
  cases a <;> simp [DiffR.andThen]

theorem differ_else_same {c : Prop} [Decidable c] {d : DiffR} :
    (if c then .differ else d) = .same ↔ ¬c ∧ d = .same :=
  ite_eq_iff_of_ne nofun

theorem same_else_differ {c : Prop} [Decidable c] : (if c then DiffR.same else .differ) = .same ↔ c := by
  by_cases h : c <;> simp [h]

/- What equal shapes preserve: the number of nodes (`sizeS`, so no schema has the shape of one it is a proper
   part of) and the lengths of field and variant lists. -/
theorem shapeEq_size :
    (∀ a b, shapeEq a b = true → sizeS a = sizeS b)
    ∧ (∀ va vb, shapeEqV va vb = true → va.length = vb.length ∧ sizeSV va = sizeSV vb)
    ∧ (∀ fa fb, shapeEqF fa fb = true → fa.length = fb.length ∧ sizeSF fa = sizeSF fb) := by
  refine shapeEq.mutual_induct_unfolding
    (motive_1 := fun a b r => r = true → sizeS a = sizeS b)
    (motive_2 := fun va vb r => r = true → va.length = vb.length ∧ sizeSV va = sizeSV vb)
    (motive_3 := fun fa fb r => r = true → fa.length = fb.length ∧ sizeSF fa = sizeSF fb)
    ?struct ?enum ?prim ?vector ?option ?zeroSize ?array ?custom ?str ?utcTimestamp ?stdIoError ?boxed ?reference
    ?slice ?recursion ?uninitSlice ?other ?fieldsNil ?fieldsCons ?fieldsOther ?variantsNil ?variantsCons
    ?variantsOther
  case struct => exact fun _ _ _ _ _ _ _ _ ih h => congrArg (1 + ·) (ih h).2
  case enum => exact fun _ _ _ _ _ _ _ _ _ _ _ _ ih h => congrArg (1 + ·) (ih (Bool.and_eq_true_iff.mp h).2).2
  case prim | custom | recursion => exact fun _ _ _ => rfl
  case vector => exact fun _ _ _ _ ih h => congrArg (1 + ·) (ih h)
  case option | boxed | reference | slice => exact fun _ _ ih h => congrArg (1 + ·) (ih h)
  case zeroSize | str | utcTimestamp | stdIoError | uninitSlice => exact fun _ => rfl
  case array => exact fun _ _ _ _ ih h => congrArg (1 + ·) (ih (Bool.and_eq_true_iff.mp h).2)
  case other | fieldsOther | variantsOther => intros; contradiction
  case fieldsNil | variantsNil => exact fun _ => ⟨rfl, rfl⟩
  case fieldsCons =>
    intro _ ta _ ra _ tb _ rb iht ihr h
    simp only [Bool.and_eq_true] at h
    simp only [SFieldL.length, sizeSF, iht h.1, ihr h.2, and_self]
  case variantsCons =>
    intro na da fa ra nb db fb rb ihf ihr h
    simp only [Bool.and_eq_true] at h
    simp only [SVariantL.length, sizeSV, ihf h.1.2, ihr h.2, and_self]

theorem shapeEqF_length (a b : SFieldL) (h : shapeEqF a b = true) : a.length = b.length :=
  (shapeEq_size.2.2 a b h).1

theorem shapeEqV_length (a b : SVariantL) (h : shapeEqV a b = true) : a.length = b.length :=
  (shapeEq_size.2.1 a b h).1

/- a finite table: evaluated, except where a `str` layout stays variable -/
theorem prim_diff_iff (a b : SPrim) :
    ((if a = b then DiffR.same else match a, b with | .str _, .str _ => DiffR.same | _, _ => DiffR.differ) = .same)
      ↔ (a.shape == b.shape) = true := by
  cases a <;> cases b <;> first | decide | simp [SPrim.shape, SPrim.code]

theorem diff_prim (a b : SPrim) (rp : Bool) :
    diff (.prim a) (.prim b) rp = .same ↔ (a.shape == b.shape) = true := by
  rw [diff.eq_def]; exact prim_diff_iff a b

theorem diffFieldsLen_iff_of {a b : SFieldL} (h : diffFields a b = .same ↔ shapeEqF a b = true) :
    diffFieldsLen a b = .same ↔ shapeEqF a b = true := by
  simp only [diffFieldsLen, differ_else_same, Decidable.not_not, h]
  exact and_iff_right_of_imp (shapeEqF_length a b)

/- `diff_schema` reports no difference exactly when the shapes agree, provided the first schema is a data
   schema.  By induction along `shapeEq`: each of its arms is the arm of `diff` for the same constructor, read
   through the three lemmas on `DiffR` above; a length check in `diff` is implied by the shapes of the lists. -/
theorem diff_same_iff :
    (∀ a b, dataS a = true → ∀ rp, (diff a b rp = .same ↔ shapeEq a b = true))
    ∧ (∀ va vb, dataSV va = true → (diffVariants va vb = .same ↔ shapeEqV va vb = true))
    ∧ (∀ fa fb, dataSF fa = true → (diffFields fa fb = .same ↔ shapeEqF fa fb = true)) := by
  refine shapeEq.mutual_induct_unfolding
    (motive_1 := fun a b r => dataS a = true → ∀ rp, (diff a b rp = .same ↔ r = true))
    (motive_2 := fun va vb r => dataSV va = true → (diffVariants va vb = .same ↔ r = true))
    (motive_3 := fun fa fb r => dataSF fa = true → (diffFields fa fb = .same ↔ r = true))
    ?struct ?enum ?prim ?vector ?option ?zeroSize ?array ?custom ?str ?utcTimestamp ?stdIoError ?boxed ?reference
    ?slice ?recursion ?uninitSlice ?other ?fieldsNil ?fieldsCons ?fieldsOther ?variantsNil ?variantsCons
    ?variantsOther
  case struct =>
    intro _ _ _ fa _ _ _ fb ih h rp
    simp only [diff]
    exact diffFieldsLen_iff_of (ih h)
  case enum =>
    intro _ va da _ _ _ _ vb db _ _ _ ih h rp
    simp only [diff, differ_else_same, Decidable.not_not, ih h, Bool.and_eq_true, decide_eq_true_eq]
    exact and_iff_right_of_imp fun hs => shapeEqV_length va vb hs.2
  case prim =>
    intro a b _ rp
    exact diff_prim a b rp
  case vector =>
    intro a _ b _ ih h rp
    rw [diff]
    exact ih h _
  case option | boxed | reference | slice =>
    intro a b ih h rp
    rw [diff]
    exact ih h _
  case zeroSize | str | utcTimestamp | stdIoError | uninitSlice =>
    intro _ rp
    simp only [diff]
  case array =>
    intro a na b nb ih h rp
    simp only [diff, differ_else_same, Decidable.not_not, ih h, Bool.and_eq_true, decide_eq_true_eq]
  case custom | recursion =>
    intro a b _ rp
    simp only [diff, same_else_differ, decide_eq_true_eq]
  case other =>
    -- no arm of `shapeEq`: then no arm of `diff` either, or one of the four that no data schema reaches
    intro a b _ _ _ _ _ _ _ _ _ _ _ _ _ _ _ _ h rp
    rw [diff] <;> try assumption
    · exact ⟨nofun, nofun⟩
    all_goals intros; subst_vars; cases h
  case fieldsNil =>
    intro _
    simp only [diffFields]
  case fieldsCons =>
    intro _ ta _ ra _ tb _ rb iht ihr h
    simp only [dataSF, Bool.and_eq_true] at h
    simp only [diffFields, andThen_same, iht h.1, ihr h.2, Bool.and_eq_true]
  case fieldsOther =>
    intro a b _ _ _
    rw [diffFields] <;> first | assumption | exact ⟨nofun, nofun⟩
  case variantsNil =>
    intro _
    simp only [diffVariants]
  case variantsCons =>
    intro na da fa ra nb db fb rb ihf ihr h
    simp only [dataSV, Bool.and_eq_true] at h
    simp only [diffVariants, differ_else_same, Decidable.not_not, andThen_same, diffFieldsLen_iff_of (ihf h.1),
      ihr h.2, Bool.and_eq_true, decide_eq_true_eq, and_assoc]
  case variantsOther =>
    intro a b _ _ _
    rw [diffVariants] <;> first | assumption | exact ⟨nofun, nofun⟩

/- `diff_same_iff` is the sharp form: the second `dataS` hypothesis of the statements below is not needed. -/
theorem diff_iff_shapeEq : ∀ (a b : Schema) (rp : Bool), dataS a = true → dataS b = true →
    (diff a b rp = .same ↔ shapeEq a b = true) :=
  fun a b rp ha _ => diff_same_iff.1 a b ha rp

theorem diffFieldsLen_iff : ∀ (a b : SFieldL), dataSF a = true → dataSF b = true →
    (diffFieldsLen a b = .same ↔ shapeEqF a b = true) :=
  fun a b ha _ => diffFieldsLen_iff_of (diff_same_iff.2.2 a b ha)

theorem diffVariants_iff : ∀ (a b : SVariantL), dataSV a = true → dataSV b = true →
    (diffVariants a b = .same ↔ shapeEqV a b = true) :=
  fun a b ha _ => diff_same_iff.2.1 a b ha

mutual
theorem shapeEq_refl : ∀ (s : Schema), dataS s = true → shapeEq s s = true
  | .struct _ _ _ fs => shapeEqF_refl fs
  | .enum _ vs _ _ _ _ => fun h => Bool.and_eq_true_iff.mpr ⟨decide_eq_true rfl, shapeEqV_refl vs h⟩
  | .prim _ => fun _ => beq_self_eq_true _
  | .array t _ => fun h => Bool.and_eq_true_iff.mpr ⟨decide_eq_true rfl, shapeEq_refl t h⟩
  | .vector t _ | .option t | .boxed t | .slice t | .reference t => shapeEq_refl t
  | .custom _ | .recursion _ => fun _ => decide_eq_true rfl
  | .zeroSize | .str | .stdIoError | .uninitSlice | .utcTimestamp => fun _ => rfl
  | .undefined | .trait _ _ | .fnClosure _ _ | .future _ _ _ _ => nofun
theorem shapeEqF_refl : ∀ (fs : SFieldL), dataSF fs = true → shapeEqF fs fs = true
  | .nil => fun _ => rfl
  | .cons _ t _ rest => fun h => by
    simp only [dataSF, Bool.and_eq_true] at h
    simp only [shapeEqF, shapeEq_refl t h.1, shapeEqF_refl rest h.2, Bool.and_self]
theorem shapeEqV_refl : ∀ (vs : SVariantL), dataSV vs = true → shapeEqV vs vs = true
  | .nil => fun _ => rfl
  | .cons _ _ fs rest => fun h => by
    simp only [dataSV, Bool.and_eq_true] at h
    simp only [shapeEqV, shapeEqF_refl fs h.1, shapeEqV_refl rest h.2, decide_true, Bool.and_self]
end

theorem diff_refl_data (s : Schema) (rp : Bool) (h : dataS s = true) : diff s s rp = .same :=
  (diff_same_iff.1 s s h rp).mpr (shapeEq_refl s h)

end Sfv
