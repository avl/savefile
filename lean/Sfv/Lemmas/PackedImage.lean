import Sfv.Lemmas.Packed
import Sfv.Lemmas.Ty
import Sfv.Lemmas.RoundTrip
namespace Sfv

/-! ### A type the code judges packed has a memory image equal to its field-wise encoding -/

/-- what the per-field conditions of the packed decision amount to at version `v` -/
def fieldsOK : FieldL → Nat → Bool
  | .nil, _ => true
  | .cons a t _ fs, v =>
    !a.ignore && (if a.rm != .no then !a.r.has v else a.r.has v && isPacked t v) && fieldsOK fs v

mutual
/- sanity of the descriptor inputs: a struct without fields is zero sized; an enum whose variants have no
   fields consists of its tag; removed fields have closed ranges -/
def wfLay : Ty → Bool
  | .arr _ t => wfLay t
  | .wrap _ t => wfLay t
  | .tup lay _ ts => wfLayL ts && (match ts with | .nil => lay.size == 0 | _ => true)
  | .struct _ _ lay fs => wfLayF fs && (match fs with | .nil => lay.size == 0 | _ => true)
  | .enum _ repr lay vs => wfLayV vs && (anyFieldsV vs || lay.size == tagWidth repr vs.length)
  | _ => true
def wfLayL : TyL → Bool
  | .nil => true
  | .cons t ts => wfLay t && wfLayL ts
def wfLayF : FieldL → Bool
  | .nil => true
  | .cons a t _ fs =>
    -- (the derive macro enforces/documents: a `Removed`/`AbiRemoved` field carries a closed version range)
    wfLay t && (if a.rm != .no then decide (a.r.hi < u32Max) else true) && wfLayF fs
def wfLayV : VariantL → Bool
  | .nil => true
  | .cons _ _ _ fs vs => wfLayF fs && wfLayV vs
end

/-! ### version gates: `v ≥ if r.isAll then 0 else r.minSafe` is what the packed decision asks of a range -/

theorem VerRange.lo_le_gate (r : VerRange) : r.lo ≤ (if r.isAll then 0 else r.minSafe) := by
  split
  · next h => exact Nat.le_of_eq (isAll_iff.1 h).1
  · exact Nat.le_max_right _ _

theorem VerRange.hi_lt_gate {r : VerRange} (h : r.hi < u32Max) : r.hi < (if r.isAll then 0 else r.minSafe) := by
  split
  · next ha => exact absurd (isAll_iff.1 ha).2 (Nat.ne_of_lt h)
  · unfold minSafe
    rw [if_pos h]
    exact Nat.le_max_left _ _

theorem VerRange.gate_le_minSafe (r : VerRange) : (if r.isAll then 0 else r.minSafe) ≤ r.minSafe := by
  split
  · exact Nat.zero_le _
  · exact Nat.le_refl _

/-- one field: a live field (open range, by `anyClosedLive`) is present at `v` and packed, a removed one (closed
    range, by `wfLayF`) is absent. `hcl` is the head disjunct of `anyClosedLive (.cons a ..) = false`, `hwf` the
    range conjunct of `wfLayF (.cons a ..) = true`, `hms` the head of the `minSafeFields`/`minSafeFieldsEnum` bound,
    as `dsimp only` leaves them. -/
theorem fieldOK_head {a : FieldAttr} {t : Ty} {v : Nat} (hv : v ≤ u32Max)
    (hcl : (a.rm == .no && decide (a.r.hi < u32Max)) = false)
    (hwf : (if a.rm != .no then decide (a.r.hi < u32Max) else true) = true)
    (hms : v ≥ (if a.r.isAll then 0 else a.r.minSafe)) (hp : a.rm = .no → isPacked t v = true) :
    (if a.rm != .no then !a.r.has v else a.r.has v && isPacked t v) = true := by
  by_cases hrm : a.rm = .no
  · simp only [hrm, beq_self_eq_true, Bool.true_and, decide_eq_false_iff_not] at hcl
    -- the only use of `hv` (versions are `u32` in the code) in this file: an open range ends at `u32Max` or later
    have : a.r.has v = true :=
      VerRange.has_iff.2 ⟨Nat.le_trans a.r.lo_le_gate hms, Nat.le_trans hv (Nat.le_of_not_lt hcl)⟩
    simp [hrm, hp hrm, this]
  · have hrm : (a.rm != .no) = true := by simpa using hrm
    simp only [hrm, if_true, decide_eq_true_eq] at hwf
    have : a.r.has v = false := VerRange.not_has_iff.2 (.inr (Nat.lt_of_lt_of_le (VerRange.hi_lt_gate hwf) hms))
    simp [hrm, this]

theorem fieldsOK_of_struct (v : Nat) (hv : v ≤ u32Max) : ∀ (fs : FieldL),
    anyIgnore fs = false → anyClosedLive fs = false → v ≥ minSafeFields fs → fieldsPacked fs v = true →
    wfLayF fs = true → fieldsOK fs v = true
  | .nil => fun _ _ _ _ _ => rfl
  | .cons a t as fs => fun hi hc hm hp hw => by
    dsimp only [anyIgnore, anyClosedLive, minSafeFields, fieldsPacked, wfLayF] at hi hc hm hp hw
    simp only [Bool.or_eq_false_iff, Bool.and_eq_true] at hi hc hp hw
    have hm := Nat.max_le.1 hm
    dsimp only [fieldsOK]
    rw [hi.1, fieldOK_head hv hc.1 hw.1.2 hm.1 (fun h => by simpa [h] using hp.1),
      fieldsOK_of_struct v hv fs hi.2 hc.2 hm.2 hp.2 hw.2]
    rfl

theorem isPacked_struct {name : String} {repr : ReprAttr} {lay : Lay} {fs : FieldL} {v : Nat} (hv : v ≤ u32Max)
    (hw : wfLayF fs = true) (hp : isPacked (.struct name repr lay fs) v = true) :
    fieldsOK fs v = true ∧ v ≥ minSafeFields fs ∧ ∃ spans, fieldSpans fs = some spans ∧ chainOk lay.size spans = true := by
  dsimp only [isPacked] at hp
  simp only [Bool.and_eq_true, Bool.not_eq_true', decide_eq_true_eq] at hp
  obtain ⟨⟨⟨⟨⟨hig, _⟩, hcl⟩, hms⟩, hfp⟩, hchain⟩ := hp
  refine ⟨fieldsOK_of_struct v hv fs hig hcl hms hfp hw, hms, ?_⟩
  split at hchain
  · next spans hsp => exact ⟨spans, hsp, hchain⟩
  · cases hchain

/-- as `fieldsOK_of_struct`; the enum bound is the bare `minSafe` (weakened by `gate_le_minSafe`), and removed
    fields are exempt from `enumFieldsPacked` -/
theorem fieldsOK_of_enum (v : Nat) (hv : v ≤ u32Max) : ∀ (fs : FieldL),
    anyIgnore fs = false → anyClosedLive fs = false → v ≥ minSafeFieldsEnum fs → enumFieldsPacked fs v = true →
    wfLayF fs = true → fieldsOK fs v = true
  | .nil => fun _ _ _ _ _ => rfl
  | .cons a t as fs => fun hi hc hm hp hw => by
    dsimp only [anyIgnore, anyClosedLive, minSafeFieldsEnum, enumFieldsPacked, wfLayF] at hi hc hm hp hw
    simp only [Bool.or_eq_false_iff, Bool.and_eq_true] at hi hc hp hw
    have hm := Nat.max_le.1 hm
    dsimp only [fieldsOK]
    rw [hi.1, fieldOK_head hv hc.1 hw.1.2 (Nat.le_trans a.r.gate_le_minSafe hm.1) (fun h => by simpa [h] using hp.1),
      fieldsOK_of_enum v hv fs hi.2 hc.2 hm.2 hp.2 hw.2]
    rfl

/-- a primitive's memory is its encoding, whether or not it is `Packed` -/
theorem memOK_prim_enc (p : Prim) (x : V) (mem : Bytes) (hm : MemOK (.prim p) x mem) : enc p.wire x = some mem := by
  dsimp only [MemOK] at hm
  split at hm
  · subst hm; simp only [Prim.wire, enc, encProd]
  · simp only [Prim.wire, enc, hm.1, hm.2, if_true]
  · simp only [Prim.wire, enc, hm.1, hm.2, if_true]
  · cases hm
  · next n hb hc hu =>
    -- `rw [Prim.wire]` picks the catch-all equation; its three side goals are the hypotheses of this `split` case
    rw [Prim.wire]
    · simp only [Prim.memSize] at hm
      simp only [enc, hm.1, hm.2, if_true]
    · exact hb
    · exact hc
    · exact hu
  · cases hm

theorem exceptMap_ok {ε α β} {f : α → β} {x : Except ε α} {b : β} (h : Except.map f x = .ok b) :
    ∃ a, x = .ok a ∧ f a = b := by
  cases x with
  | error e => cases h
  | ok a => cases h; exact ⟨a, rfl, rfl⟩

theorem allcat_eq {P : V → Bytes → Prop} {f : V → Except SaveFail V} {w : W}
    (h : ∀ x mem wv bs, P x mem → f x = .ok wv → enc w wv = some bs → mem = bs) :
    ∀ (l : VL) (mem : Bytes) (wl : VL) (bs : Bytes),
      AllCat P l mem → mapMVL f l = .ok wl → encAll w wl = some bs → mem = bs
  | .nil => fun mem wl bs ha hm he => by
    cases hm
    simp only [encAll, Option.some.injEq] at he
    exact ha.trans he
  | .cons x xs => fun mem wl bs ha hm he => by
    obtain ⟨a, b, rfl, hpa, hrest⟩ := ha
    dsimp only [mapMVL] at hm
    split at hm
    · next wx wxs hfx hfs =>
      cases hm
      simp only [encAll] at he
      obtain ⟨b1, b2, h1, h2, rfl⟩ := cat2_some he
      rw [h x a wx b1 hpa hfx h1, allcat_eq h xs b wxs b2 hrest hfs h2]
    · cases hm
    · cases hm

theorem mapMVL_length {f : V → Except SaveFail V} : ∀ (l wl : VL), mapMVL f l = .ok wl → wl.length = l.length
  | .nil => fun wl h => by cases h; rfl
  | .cons x xs => fun wl h => by
    dsimp only [mapMVL] at h
    split at h
    · next wx wxs _ hfs => cases h; exact congrArg (· + 1) (mapMVL_length xs wxs hfs)
    · cases h
    · cases h

/-- without explicit discriminant values the stored discriminant of variant `i` is `i`; `MemOKVariant` serves only
    to exclude `i ≥ vs.length` -/
theorem discrOf_index : ∀ (vs : VariantL) (i next : Nat) (l : VL) (mem : Bytes),
    anyExplicitDiscr vs = false → MemOKVariant vs i l mem → discrOf vs i next = next + i
  | .nil => fun _ _ _ _ _ hm => hm.elim
  | .cons _ _ d _ vs => fun i next l mem hd hm => by
    dsimp only [anyExplicitDiscr] at hd
    simp only [Bool.or_eq_false_iff, Option.isSome_eq_false_iff, Option.isNone_iff_eq_none] at hd
    obtain ⟨rfl, hd⟩ := hd
    cases i with
    | zero => rfl
    | succ i => exact (discrOf_index vs i (next + 1) l mem hd hm).trans (by omega)

theorem fieldSpans_nil : ∀ {fs : FieldL}, fieldSpans fs = some [] → fs = .nil
  | .nil, _ => rfl
  | .cons a t as fs, h => by
    dsimp only [fieldSpans] at h
    split at h <;> cases h

theorem tupleSpans_nil : ∀ {offs : List Nat} {ts : TyL}, tupleSpans offs ts = some [] → ts = .nil
  | _, .nil, _ => rfl
  | [], .cons _ _, h => nomatch h
  | o :: offs, .cons t ts, h => by
    dsimp only [tupleSpans] at h
    split at h <;> cases h

/-- in an enum none of whose variants has fields, a variant's body is empty -/
theorem unit_variant_body (v : Nat) : ∀ (vs : VariantL) (i : Nat) (wl : VL) (body : Bytes),
    anyFieldsV vs = false → encAlt (saveVariants vs v) i (.tup wl) = some body → body = []
  | .nil => fun _ _ _ _ henc => by
    simp only [saveVariants, encAlt] at henc
    cases henc
  | .cons nm r d fs vs => fun i wl body hany henc => by
    dsimp only [anyFieldsV] at hany
    simp only [Bool.or_eq_false_iff] at hany
    dsimp only [saveVariants] at henc
    cases i with
    | succ i => exact unit_variant_body v vs i wl body hany.2 (by simpa only [encAlt] using henc)
    | zero =>
      cases fs with
      | cons _ _ _ _ => cases hany.1
      | nil =>
        dsimp only [saveFields] at henc
        simp only [encAlt, enc] at henc
        cases wl with
        | nil =>
          simp only [encProd] at henc
          exact (Option.some.inj henc).symm
        | cons _ _ =>
          simp only [encProd] at henc
          cases henc

/- Every memory consistent with the layout equals the field-wise encoding. The list lemmas give the intermediate
   form `∃ imgs, SlicesOK mem spans imgs ∧ bs = imgs.flatten` (the encoding is the concatenation of the slices at the
   fields' spans), which `chain_concat` / `chain_from` turn into `mem = bs`. -/
mutual
theorem packed_image (v : Nat) (hv : v ≤ u32Max) : ∀ (T : Ty) (x : V) (mem : Bytes) (wv : V) (bs : Bytes),
    isPacked T v = true → d2Free T = true → wfLay T = true → MemOK T x mem → proj T v x = .ok wv →
    enc (saveWire T v) wv = some bs → mem = bs
  | .prim p => fun x mem wv bs _ _ _ hm hproj henc => by
    cases hproj
    exact Option.some.inj ((memOK_prim_enc p x mem hm).symm.trans henc)
  | .arr n t => fun x mem wv bs hp hd hw hm hproj henc => by
    cases x with
    | tup l =>
      obtain ⟨wl, hq, rfl⟩ := exceptMap_ok hproj
      dsimp only [saveWire] at henc
      simp only [enc] at henc
      split at henc
      · exact allcat_eq (fun x mem wv bs => packed_image v hv t x mem wv bs hp hd hw) l mem wl bs hm hq henc
      · cases henc
    | _ => cases hm
  | .wrap c t => fun x mem wv bs hp hd hw hm hproj henc => by
    cases c with
    | cell => exact packed_image v hv t x mem wv bs hp hd hw hm hproj henc
    | _ => cases hp
  | .tup lay offs ts => fun x mem wv bs hp hd hw hm hproj henc => by
    cases x with
    | tup l =>
      dsimp only [isPacked, tupleChain, wfLay] at hp hw
      simp only [Bool.and_eq_true] at hp hw
      obtain ⟨hall, hchain⟩ := hp
      obtain ⟨wl, hq, rfl⟩ := exceptMap_ok hproj
      dsimp only [saveWire] at henc
      simp only [enc] at henc
      split at hchain
      · next spans hsp =>
        refine chain_concat hm.1 hchain (packed_tup v hv ts offs l mem wl bs spans hall hd hw.1 hsp hm.2 hq henc)
          fun h => ?_
        -- no members: zero sized (`wfLay`)
        cases tupleSpans_nil (h ▸ hsp)
        exact beq_iff_eq.1 hw.2
      · cases hchain
    | _ => cases hm
  | .struct name repr lay fs => fun x mem wv bs hp hd hw hm hproj henc => by
    cases x with
    | tup l =>
      dsimp only [wfLay] at hw
      simp only [Bool.and_eq_true] at hw
      obtain ⟨hok, _, spans, hsp, hchain⟩ := isPacked_struct hv hw.1 hp
      obtain ⟨wl, hq, rfl⟩ := exceptMap_ok hproj
      dsimp only [saveWire] at henc
      simp only [enc] at henc
      refine chain_concat hm.1 hchain (packed_fields v hv fs l mem wl bs spans hok hd hw.1 hsp hm.2 hq henc) fun h => ?_
      cases fieldSpans_nil (h ▸ hsp)
      exact beq_iff_eq.1 hw.2
    | _ => cases hm
  | .enum name repr lay vs => fun x mem wv bs hp hd hw hm hproj henc => by
    cases x with
    | alt i xv =>
      cases xv with
      | tup l =>
        dsimp only [isPacked, d2Free, wfLay] at hp hd hw
        simp only [Bool.and_eq_true, Bool.not_eq_true', decide_eq_true_eq, Bool.or_eq_true, beq_iff_eq] at hp hd hw
        obtain ⟨⟨⟨⟨⟨⟨_, hnd⟩, hig⟩, hcl⟩, hms⟩, hfp⟩, hchain⟩ := hp
        obtain ⟨hlen, htag, hvar⟩ := hm
        obtain ⟨wl, hq, rfl⟩ := exceptMap_ok hproj
        dsimp only [saveWire] at henc
        simp only [enc] at henc
        split at henc
        · obtain ⟨body, hbody, rfl⟩ := Option.map_eq_some_iff.1 henc
          rw [discrOf_index vs i 0 l mem hnd hvar, Nat.zero_add] at htag
          rw [← htag]
          cases hany : anyFieldsV vs with
          | true =>
            -- every variant has fields (`d2Free`): they follow the tag and fill the enum
            simp only [hany, Bool.true_eq_false, false_or] at hd hchain
            exact packed_variant v hv _ lay.size mem hlen vs i l wl body hig hcl hms hfp hd.2 hw.1 hchain hd.1 hvar hq
              hbody
          | false =>
            -- no variant has fields: the enum is its tag
            simp only [hany, Bool.false_eq_true, false_or] at hw
            cases unit_variant_body v vs i wl body hany hbody
            rw [slice, List.drop_zero, List.take_of_length_le (by omega), List.append_nil]
        · cases henc
      | _ => cases hm
    | _ => cases hm
  | .str _ _ | .seq _ _ | .map _ _ _ | .opt _ | .res _ _ | .ip | .sock | .canary | .sysTime | .duration | .ioErr =>
    fun _ _ _ _ hp => Bool.noConfusion hp
theorem packed_fields (v : Nat) (hv : v ≤ u32Max) : ∀ (fs : FieldL) (l : VL) (mem : Bytes) (wl : VL) (bs : Bytes)
    (spans : List (Nat × Nat)),
    fieldsOK fs v = true → d2FreeF fs = true → wfLayF fs = true → fieldSpans fs = some spans →
    MemOKFields fs l mem → projFields fs v l = .ok wl → encProd (saveFields fs v) wl = some bs →
    ∃ imgs, SlicesOK mem spans imgs ∧ bs = imgs.flatten
  | .nil => fun l mem wl bs spans _ _ _ hsp hm hq henc => by
    cases l with
    | nil =>
      cases hsp
      cases hq
      dsimp only [saveFields] at henc
      simp only [encProd, Option.some.injEq] at henc
      exact ⟨[], trivial, henc.symm⟩
    | cons _ _ => cases hm
  | .cons a t as fs => fun l mem wl bs spans hok hd hw hsp hm hq henc => by
    cases l with
    | nil => cases hm
    | cons x xs =>
      dsimp only [fieldsOK, d2FreeF, wfLayF, fieldSpans, MemOKFields, projFields, saveFields] at hok hd hw hsp hm hq henc
      simp only [Bool.and_eq_true, Bool.not_eq_true'] at hok hd hw
      obtain ⟨⟨hig, hcond⟩, hokr⟩ := hok
      simp only [hig, Bool.false_eq_true, if_false] at hq henc
      split at hsp
      · next s rest hs hsr =>
        cases hsp
        have ih := fun wl bs => packed_fields v hv fs xs mem wl bs rest hokr hd.2 hw.2 hsr hm.2
        by_cases hrm : (a.rm != .no) = true
        · -- removed: zero sized, absent from the wire at this version
          simp only [hrm, if_true, Bool.not_eq_true'] at hcond hs
          simp only [hcond, Bool.false_eq_true, if_false] at hq henc
          cases hs
          obtain ⟨imgs, hsl, rfl⟩ := ih wl bs hq henc
          exact ⟨[] :: imgs, ⟨by rw [slice, List.take_zero], hsl⟩, rfl⟩
        · simp only [hrm, Bool.false_eq_true, if_false, Bool.and_eq_true] at hcond hs
          have hrm' : a.rm = .no := by simpa using hrm
          obtain ⟨sz, hsz, hmx⟩ := hm.1.resolve_left (not_not_intro hrm')
          cases hsz.symm.trans hs
          simp only [hcond.1, if_true, hrm'] at hq henc
          split at hq
          · next wx wxs hpx hpr =>
            cases hq
            simp only [encProd] at henc
            obtain ⟨b1, b2, h1, h2, rfl⟩ := cat2_some henc
            cases packed_image v hv t x _ wx b1 hcond.2 hd.1 hw.1.1 hmx hpx h1
            obtain ⟨imgs, hsl, rfl⟩ := ih wxs b2 hpr h2
            exact ⟨_ :: imgs, ⟨rfl, hsl⟩, rfl⟩
          · cases hq
          · cases hq
      · cases hsp
theorem packed_tup (v : Nat) (hv : v ≤ u32Max) : ∀ (ts : TyL) (offs : List Nat) (l : VL) (mem : Bytes) (wl : VL) (bs : Bytes)
    (spans : List (Nat × Nat)),
    allPackedL ts v = true → d2FreeL ts = true → wfLayL ts = true → tupleSpans offs ts = some spans →
    MemOKTup offs ts l mem → projL ts v l = .ok wl → encProd (saveWireL ts v) wl = some bs →
    ∃ imgs, SlicesOK mem spans imgs ∧ bs = imgs.flatten
  | .nil => fun offs l mem wl bs spans _ _ _ hsp hm hq henc => by
    cases l with
    | nil =>
      obtain rfl : spans = [] := by cases offs <;> cases hsp <;> rfl
      cases hq
      dsimp only [saveWireL] at henc
      simp only [encProd, Option.some.injEq] at henc
      exact ⟨[], trivial, henc.symm⟩
    | cons _ _ => cases offs <;> cases hm
  | .cons t ts => fun offs l mem wl bs spans hp hd hw hsp hm hq henc => by
    cases offs with
    | nil => cases hsp
    | cons o offs =>
      cases l with
      | nil => cases hm
      | cons x xs =>
        dsimp only [allPackedL, d2FreeL, wfLayL, tupleSpans, MemOKTup, projL, saveWireL] at hp hd hw hsp hm hq henc
        simp only [Bool.and_eq_true] at hp hd hw
        obtain ⟨⟨sz, hsz, hmx⟩, hmr⟩ := hm
        simp only [hsz] at hsp
        split at hsp
        · next s rest hs hsr =>
          cases hsp
          cases hs
          split at hq
          · next wx wxs hpx hpr =>
            cases hq
            simp only [encProd] at henc
            obtain ⟨b1, b2, h1, h2, rfl⟩ := cat2_some henc
            cases packed_image v hv t x _ wx b1 hp.1 hd.1 hw.1 hmx hpx h1
            obtain ⟨imgs, hsl, rfl⟩ := packed_tup v hv ts offs xs mem wxs b2 rest hp.2 hd.2 hw.2 hsr hmr hpr h2
            exact ⟨_ :: imgs, ⟨rfl, hsl⟩, rfl⟩
          · cases hq
          · cases hq
        · cases hsp
theorem packed_variant (v : Nat) (hv : v ≤ u32Max) (tagw size : Nat) (mem : Bytes) (hlen : mem.length = size) :
    ∀ (vs : VariantL) (i : Nat) (l wl : VL) (body : Bytes),
    anyIgnoreV vs = false → anyClosedLiveV vs = false → v ≥ minSafeVariants vs → variantsFieldsPacked vs v = true →
    d2FreeV vs = true → wfLayV vs = true → variantsChain tagw size vs = true → anyUnitV vs = false →
    MemOKVariant vs i l mem → projVariant vs v i l = .ok wl → encAlt (saveVariants vs v) i (.tup wl) = some body →
    mem = slice mem 0 tagw ++ body
  | .nil => fun i l wl body _ _ _ _ _ _ _ _ hm => nomatch hm
  | .cons nm r d fs vs => fun i l wl body hig hcl hms hfp hd hw hch hnu hm hq henc => by
    dsimp only [anyIgnoreV, anyClosedLiveV, minSafeVariants, variantsFieldsPacked, d2FreeV, wfLayV, variantsChain,
      anyUnitV, saveVariants] at hig hcl hms hfp hd hw hch hnu henc
    simp only [Bool.or_eq_false_iff, Bool.and_eq_true] at hig hcl hfp hd hw hch hnu
    cases i with
    | succ i =>
      simp only [encAlt] at henc
      exact packed_variant v hv tagw size mem hlen vs i l wl body hig.2 hcl.2 (Nat.max_le.1 hms).2 hfp.2 hd.2 hw.2 hch.2
        hnu.2 hm hq henc
    | zero =>
      dsimp only [projVariant] at hq
      simp only [encAlt, enc] at henc
      split at hq
      · cases fs with
        | nil => cases hnu.1
        | cons a0 t0 as0 fs0 =>
          have hch1 := hch.1
          dsimp only at hch1
          split at hch1
          · next o s rest hsp =>
            simp only [Bool.and_eq_true, decide_eq_true_eq] at hch1
            obtain ⟨rfl, hgo⟩ := hch1
            exact chain_from hlen hgo (packed_fields v hv _ l mem wl body _
              (fieldsOK_of_enum v hv _ hig.1 hcl.1 (Nat.max_le.1 hms).1 hfp.1 hw.1) hd.1 hw.1 hsp hm hq henc)
          · cases hch1
      · cases hq
end

end Sfv
