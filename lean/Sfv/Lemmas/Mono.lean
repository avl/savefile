import Sfv.Lemmas.WireRead
namespace Sfv

/-! ### A successful decode consumed a prefix of its input and never looked at the rest

    `dec_reads` gives both halves: how much was consumed at least, and that bytes appended to the input are
    handed through untouched. Both are closed under composition (`Reads.andThen` and its companions), and each
    decoder is a composition (Lemmas/WireRead). -/

mutual
/-- least number of bytes any value of the grammar occupies -/
def minSize : W → Nat
  | .fixed k => k
  | .bool => 1
  | .char => 4
  | .str _ => 8
  | .seq _ _ => 8
  | .opt _ => 1
  | .res a b => 1 + min (minSize a) (minSize b)
  | .prod ts => minSizeL ts
  | .rep n _ t => n * minSize t
  | .tagged w _ => w
  | .canary => 4
  | .sysTime => 16
def minSizeL : WL → Nat
  | .nil => 0
  | .cons t ts => minSize t + minSizeL ts
end

theorem repeatDec_length {f : Bytes → DecR V} : ∀ (n : Nat) {bs : Bytes} {l : VL} {r : Bytes},
    repeatDec f n bs = .ok (l, r) → l.length = n
  | 0, _, _, _, h => by cases h; rfl
  | n+1, _, _, _, h => by
    rw [repeatDec_succ] at h
    obtain ⟨_, _, _, h⟩ := DecR.andThen_ok h
    obtain ⟨_, _, hr, h⟩ := DecR.andThen_ok h
    cases h
    exact congrArg (· + 1) (repeatDec_length n hr)

theorem repeatDec_reads {f : Bytes → DecR V} {m : Nat} (s : Bytes) (hf : Reads s m f) :
    ∀ n, Reads s (n * m) (repeatDec f n)
  | 0 => .weaken (Nat.le_of_eq (Nat.zero_mul m)) (.ok VL.nil)
  | n+1 => by
    rw [repeatDec_succ]
    exact .weaken (Nat.le_of_eq ((Nat.succ_mul n m).trans (Nat.add_comm ..)))
      (.andThen hf fun _ => .andThen (repeatDec_reads s hf n) fun _ => .ok _)

theorem repeatDec_len {f : Bytes → DecR V}
    (hf : ∀ bs v r, f bs = .ok (v, r) → r.length ≤ bs.length) :
    ∀ (n : Nat) (bs : Bytes) (l : VL) (r : Bytes),
      repeatDec f n bs = .ok (l, r) → r.length ≤ bs.length :=
  fun n _ _ _ h => (repeatDec_reads (m := 0) [] (fun _ _ _ hh => ⟨hf _ _ _ hh, by simpa using hh⟩) n _ _ _ h).1

theorem readUtf8_reads (s : Bytes) (n : Nat) : Reads s 0 (readUtf8 n) := by
  intro bs v r h
  unfold readUtf8 at h ⊢
  read_step takeN_mono s
  split at h
  · next hv => cases h; exact ⟨Nat.le_of_add_left_le (Nat.le_of_eq (takeN_len hx).symm), if_pos hv⟩
  · cases h

mutual
/- `eq ▸ t` rewrites the expected type, so `t` is elaborated against the `andThen` form of the clause. The final `.ok`
   contributes `+ 0`, which is `rfl` against `minSize`; a continuation that reads more than the clause of `minSize`
   counts needs `.weaken`; where the continuation is left open (`refine … ?_`) its length `k` has to be given. -/
theorem dec_reads (cfg : Cfg) (s : Bytes) : ∀ (w : W) (u : Bool), Reads s (minSize w) (dec cfg u w)
  | .fixed k, u => dec_fixed cfg u k ▸ .andThen (readLE_reads s k) fun _ => .ok _
  | .bool, u => dec_bool cfg u ▸ .andThen (readLE_reads s 1) fun _ => .ite (.ite (.ok _) (.error _)) (.ok _)
  | .char, u => dec_char cfg u ▸ .andThen (readLE_reads s 4) fun _ => .ite (.ok _) (.ite (.error _) (.error _))
  | .str cap, u => dec_str cfg u cap ▸
    .andThen (readLE_reads s 8) fun n => .ite (.error _) (.ite (.error _) (readUtf8_reads s n))
  | .opt t, u => dec_opt cfg u t ▸ .andThen (readLE_reads s 1) fun _ =>
    .ite (.weaken (Nat.zero_le _) (.andThen (dec_reads cfg s t u) fun _ => .ok _)) (.ok _)
  | .res a b, u => dec_res cfg u a b ▸ .andThen (readLE_reads s 1) fun _ => .ite
    (.weaken (Nat.min_le_left ..) (.andThen (dec_reads cfg s a u) fun _ => .ok _))
    (.weaken (Nat.min_le_right ..) (.andThen (dec_reads cfg s b u) fun _ => .ok _))
  | .prod ts, u => dec_prod cfg u ts ▸ .andThen (decProd_reads cfg s ts u) fun _ => .ok _
  | .tagged w alts, u => dec_tagged cfg u w alts ▸ .andThen (readLE_reads s w) fun i =>
    .andThen (decAlt_reads cfg s alts u i) fun _ => .ok _
  | .canary, u => dec_canary cfg u ▸ .andThen (readLE_reads s 4) fun _ => .ite (.ok _) (.error _)
  | .sysTime, u => by
    rw [dec_sysTime]
    refine .andThen (k := 0) (readLE_reads s 16) fun n => ?_
    cases sysTimeCanon n
    · exact .ite (.error _) (.error _)
    · exact .ok _
  | .rep n none t, u => dec_rep cfg u n t ▸ .andThen (repeatDec_reads s (dec_reads cfg s t u) n) fun _ => .ok _
  | .rep n (some esz) t, u => dec_rep_bulk cfg u n esz t ▸
    .guard _ _ (.andThen (repeatDec_reads s (dec_reads cfg s t true) n) fun _ => .ok _)
  | .seq m t, u => by
    rw [dec_seq]
    refine .andThen (k := 0) (readLE_reads s 8) fun n => .ite (.error _) ?_
    cases m.bulk with
    | none => exact .ite (.error _) (.weaken (Nat.zero_le _)
        (.andThen (repeatDec_reads s (dec_reads cfg s t u) n) fun _ => .ok _))
    -- the bulk arm, guard by guard: `n = 0` | `esz * n` overflows (quirk: panic, else alloc) | allocation bound | length | read
    | some p => exact .ite (.ok _) (.ite (.ite (.error _) (.error _)) (.ite (.error _) (.guard _ _
        (.weaken (Nat.zero_le _) (.andThen (repeatDec_reads s (dec_reads cfg s t true) n) fun _ => .ok _)))))
theorem decProd_reads (cfg : Cfg) (s : Bytes) : ∀ (ts : WL) (u : Bool), Reads s (minSizeL ts) (decProd cfg u ts)
  | .nil, _ => .ok _
  | .cons t ts, u => decProd_cons cfg u t ts ▸
    .andThen (dec_reads cfg s t u) fun _ => .andThen (decProd_reads cfg s ts u) fun _ => .ok _
theorem decAlt_reads (cfg : Cfg) (s : Bytes) : ∀ (alts : WL) (u : Bool) (i : Nat), Reads s 0 (decAlt cfg u alts i)
  | .nil, u, i => by cases u <;> exact .error _
  | .cons t _, u, 0 => .weaken (Nat.zero_le _) (dec_reads cfg s t u)
  | .cons _ ts, u, i+1 => decAlt_reads cfg s ts u i
end

theorem dec_mono (cfg : Cfg) (s : Bytes) : ∀ (w : W) (u : Bool) (p : Bytes) (v : V) (r : Bytes),
    dec cfg u w p = .ok (v, r) → dec cfg u w (p ++ s) = .ok (v, r ++ s) :=
  fun w u _ _ _ h => (dec_reads cfg s w u _ _ _ h).2

theorem decProd_mono (cfg : Cfg) (s : Bytes) : ∀ (ts : WL) (u : Bool) (p : Bytes) (l : VL) (r : Bytes),
    decProd cfg u ts p = .ok (l, r) → decProd cfg u ts (p ++ s) = .ok (l, r ++ s) :=
  fun ts u _ _ _ h => (decProd_reads cfg s ts u _ _ _ h).2

theorem decAlt_mono (cfg : Cfg) (s : Bytes) : ∀ (alts : WL) (u : Bool) (i : Nat) (p : Bytes) (v : V) (r : Bytes),
    decAlt cfg u alts i p = .ok (v, r) → decAlt cfg u alts i (p ++ s) = .ok (v, r ++ s) :=
  fun alts u i _ _ _ h => (decAlt_reads cfg s alts u i _ _ _ h).2

theorem dec_consumes (cfg : Cfg) : ∀ (w : W) (u : Bool) (bs : Bytes) (v : V) (r : Bytes),
    dec cfg u w bs = .ok (v, r) → r.length + minSize w ≤ bs.length :=
  fun w u _ _ _ h => (dec_reads cfg [] w u _ _ _ h).1

theorem decProd_consumes (cfg : Cfg) : ∀ (ts : WL) (u : Bool) (bs : Bytes) (l : VL) (r : Bytes),
    decProd cfg u ts bs = .ok (l, r) → r.length + minSizeL ts ≤ bs.length :=
  fun ts u _ _ _ h => (decProd_reads cfg [] ts u _ _ _ h).1

theorem decAlt_consumes (cfg : Cfg) : ∀ (alts : WL) (u : Bool) (i : Nat) (bs : Bytes) (v : V) (r : Bytes),
    decAlt cfg u alts i bs = .ok (v, r) → r.length ≤ bs.length :=
  fun alts u i _ _ _ h => (decAlt_reads cfg [] alts u i _ _ _ h).1

/-- a decoded sequence of `n` elements of minimal encoded size `minSize t` consumed at least
    `8 + n * minSize t` bytes: it never claims more elements than the input could have encoded -/
theorem seq_count_bound (cfg : Cfg) (m : SeqMode) (t : W) (u : Bool) (bs : Bytes) (l : VL) (r : Bytes)
    (h : dec cfg u (.seq m t) bs = .ok (.seq l, r)) :
    r.length + 8 + l.length * minSize t ≤ bs.length := by
  rw [dec_seq] at h
  obtain ⟨n, r1, hq, h⟩ := DecR.andThen_ok h
  have h8 := (readLE_reads [] 8 _ _ _ hq).1
  obtain ⟨_, h⟩ := ok_of_ite h nofun
  have count : ∀ {u'}, (repeatDec (dec cfg u' t) n r1).andThen (fun l r => .ok (.seq l, r)) = .ok (V.seq l, r) →
      r.length + 8 + l.length * minSize t ≤ bs.length := fun h => by
    obtain ⟨l', r', hr, h⟩ := DecR.andThen_ok h
    cases h
    exact repeatDec_length n hr ▸ Nat.add_assoc .. ▸
      consumed_add h8 (repeatDec_reads [] (dec_reads cfg [] t _) n _ _ _ hr).1
  cases hb : m.bulk with
  | none =>
    simp only [hb] at h
    exact count (ok_of_ite h nofun).2
  | some p =>
    simp only [hb] at h
    by_cases hz : n = 0
    · rw [if_pos hz] at h; cases h; exact (Nat.zero_mul _).symm ▸ h8
    rw [if_neg hz] at h
    obtain ⟨_, h⟩ := ok_of_ite h (by split <;> nofun)
    obtain ⟨_, h⟩ := ok_of_ite h nofun
    exact count (ok_of_ite h nofun).2

end Sfv
