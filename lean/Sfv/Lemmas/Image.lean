/-
  Sfv.Lemmas.Image — layout-compatible schemas prescribe the same memory image.

  The image of a compound schema is read through the images of its parts (the `_congr` lemmas); `layout_same`
  then is one induction along `layoutCompatible`, for size, image (`imgAt`) and memory (`holdsAt`) together.
-/
import Sfv.Model.Image
namespace Sfv

theorem imgElems_congr (stride : Nat) (t t' : Schema) (h : ∀ base x, imgAt base t x = imgAt base t' x) :
    ∀ (l : VL) (base : Nat), imgElems base stride t l = imgElems base stride t' l
  | .nil, _ => rfl
  | .cons x xs, base => by simp only [imgElems, h base x, imgElems_congr stride t t' h xs (base + stride)]

theorem imgAt_struct_congr {fa fb : SFieldL} (h : ∀ base l, imgFields base fa l = imgFields base fb l)
    (base : Nat) (n n' : Bytes) (s a s' a' : Option Nat) (x : V) :
    imgAt base (.struct n s a fa) x = imgAt base (.struct n' s' a' fb) x := by
  cases x with
  | tup l => exact h base l
  | _ => rfl

theorem imgAt_array_congr {ta tb : Schema} (hs : schemaSize ta = schemaSize tb)
    (h : ∀ base x, imgAt base ta x = imgAt base tb x) (base n n' : Nat) (x : V) :
    imgAt base (.array ta n) x = imgAt base (.array tb n') x := by
  cases x with
  | tup l =>
    unfold imgAt
    simp only [hs, imgElems_congr _ ta tb h]
  | _ => rfl

/-- same variants, as far as the image is concerned: same recorded discriminant, fields with the same image -/
def VariantsAgree (va vb : SVariantL) : Prop :=
  ∀ i, match variantAt va i, variantAt vb i with
    | some (da, fa), some (db, fb) => da = db ∧ ∀ base l, imgFields base fa l = imgFields base fb l
    | none, none => True
    | _, _ => False

theorem imgAt_enum_congr {va vb : SVariantL} (h : VariantsAgree va vb)
    (base : Nat) (n n' : Bytes) (d : Nat) (e e' : Bool) (s a s' a' : Option Nat) (x : V) :
    imgAt base (.enum n va d e s a) x = imgAt base (.enum n' vb d e' s' a') x := by
  cases x with
  | alt i v =>
    cases v with
    | tup l =>
      have hi := h i
      unfold imgAt
      split at hi
      · next h1 h2 => simp only [h1, h2, hi.1, hi.2]
      · next h1 h2 => simp only [h1, h2]
      · contradiction
    | _ => rfl
  | _ => rfl

/-! ### the same for memory as a whole, heap data of collections included -/

theorem holdsElems_congr (mem : Mem) (stride : Nat) (t t' : Schema) (h : ∀ base x, holdsAt mem base t x = holdsAt mem base t' x) :
    ∀ (l : VL) (base : Nat), holdsElems mem base stride t l = holdsElems mem base stride t' l
  | .nil, _ => rfl
  | .cons x xs, base => by simp only [holdsElems, h base x, holdsElems_congr mem stride t t' h xs (base + stride)]

theorem holdsAt_struct_congr {mem : Mem} {fa fb : SFieldL} (h : ∀ base l, holdsFields mem base fa l = holdsFields mem base fb l)
    (base : Nat) (n n' : Bytes) (s a s' a' : Option Nat) (x : V) :
    holdsAt mem base (.struct n s a fa) x = holdsAt mem base (.struct n' s' a' fb) x := by
  cases x with
  | tup l => exact h base l
  | _ => rfl

theorem holdsAt_array_congr {mem : Mem} {ta tb : Schema} (hs : schemaSize ta = schemaSize tb)
    (h : ∀ base x, holdsAt mem base ta x = holdsAt mem base tb x) (base n n' : Nat) (x : V) :
    holdsAt mem base (.array ta n) x = holdsAt mem base (.array tb n') x := by
  cases x with
  | tup l =>
    unfold holdsAt
    simp only [hs, holdsElems_congr mem _ ta tb h]
  | _ => rfl

theorem holdsAt_vector_congr {mem : Mem} {ta tb : Schema} (hs : schemaSize ta = schemaSize tb)
    (h : ∀ base x, holdsAt mem base ta x = holdsAt mem base tb x) (base : Nat) (lay : VLayout) (x : V) :
    holdsAt mem base (.vector ta lay) x = holdsAt mem base (.vector tb lay) x := by
  cases x with
  | seq l =>
    unfold holdsAt
    simp only [hs, holdsElems_congr mem _ ta tb h]
  | _ => rfl

/-- same variants, as far as memory is concerned -/
def VariantsAgreeH (mem : Mem) (va vb : SVariantL) : Prop :=
  ∀ i, match variantAt va i, variantAt vb i with
    | some (da, fa), some (db, fb) => da = db ∧ ∀ base l, holdsFields mem base fa l = holdsFields mem base fb l
    | none, none => True
    | _, _ => False

theorem holdsAt_enum_congr {mem : Mem} {va vb : SVariantL} (h : VariantsAgreeH mem va vb)
    (base : Nat) (n n' : Bytes) (d : Nat) (e e' : Bool) (s a s' a' : Option Nat) (x : V) :
    holdsAt mem base (.enum n va d e s a) x = holdsAt mem base (.enum n' vb d e' s' a') x := by
  cases x with
  | alt i v =>
    cases v with
    | tup l =>
      have hi := h i
      unfold holdsAt
      split at hi
      · next h1 h2 => simp only [h1, h2, hi.1, hi.2]
      · next h1 h2 => simp only [h1, h2]
      · contradiction
    | _ => rfl
  | _ => rfl

/-- By induction along `layoutCompatible`: compatible schemas have the same size, the same image and the same
    reading of memory.  (`layoutFields` and `layoutVariants` accept lists of different lengths; the callers
    compare the lengths first.) -/
theorem layout_same :
    (∀ a b, layoutCompatible a b = true → schemaSize a = schemaSize b
      ∧ (∀ base x, imgAt base a x = imgAt base b x) ∧ ∀ mem base x, holdsAt mem base a x = holdsAt mem base b x)
    ∧ (∀ va vb, va.length = vb.length → layoutVariants va vb = true →
      VariantsAgree va vb ∧ ∀ mem, VariantsAgreeH mem va vb)
    ∧ (∀ fa fb, fa.length = fb.length → layoutFields fa fb = true →
      (∀ base l, imgFields base fa l = imgFields base fb l)
      ∧ ∀ mem base l, holdsFields mem base fa l = holdsFields mem base fb l) := by
  refine layoutCompatible.mutual_induct_unfolding
    (motive_1 := fun a b r => r = true → _) (motive_2 := fun va vb r => va.length = vb.length → r = true → _)
    (motive_3 := fun fa fb r => fa.length = fb.length → r = true → _)
    ?struct ?enum ?prim ?vector ?array ?option ?zeroSize ?custom ?fnClosure ?boxed ?reference ?slice ?other
    ?fieldsCons ?fieldsOther ?variantsCons ?variantsOther
  case struct =>
    intro n sa aa fa n' sb ab fb ih h
    simp only [Bool.and_eq_true, decide_eq_true_eq] at h
    obtain ⟨⟨⟨⟨⟨hl, _⟩, _⟩, _⟩, hs⟩, hf⟩ := h
    obtain ⟨hi, hm⟩ := ih hl hf
    exact ⟨hs, fun base x => imgAt_struct_congr hi base .., fun mem base x => holdsAt_struct_congr (hm mem) base ..⟩
  case enum =>
    intro n va da ea sa aa n' vb db eb sb ab ih h
    simp only [Bool.and_eq_true, decide_eq_true_eq] at h
    obtain ⟨⟨⟨⟨⟨⟨⟨⟨_, _⟩, _⟩, _⟩, _⟩, hs⟩, hd⟩, hl⟩, hv⟩ := h
    subst hd
    obtain ⟨hi, hm⟩ := ih hl hv
    exact ⟨hs, fun base x => imgAt_enum_congr hi base .., fun mem base x => holdsAt_enum_congr (hm mem) base ..⟩
  case prim =>
    intro pa pb h
    simp only [Bool.and_eq_true, decide_eq_true_eq] at h
    cases h.2
    exact ⟨rfl, fun _ _ => rfl, fun _ _ _ => rfl⟩
  case vector =>
    intro ta la tb lb ih h
    simp only [Bool.and_eq_true, beq_iff_eq] at h
    obtain ⟨⟨⟨ht, _⟩, _⟩, hl⟩ := h
    subst hl
    obtain ⟨hs, _, hm⟩ := ih ht
    exact ⟨rfl, fun _ _ => by unfold imgAt; rfl, fun mem base x => holdsAt_vector_congr hs (hm mem) base ..⟩
  case array =>
    intro ta na tb nb ih h
    simp only [Bool.and_eq_true, decide_eq_true_eq] at h
    obtain ⟨hn, ht⟩ := h
    obtain ⟨hs, hi, hm⟩ := ih ht
    exact ⟨by simp only [schemaSize, hs, hn], fun base x => imgAt_array_congr hs hi base ..,
      fun mem base x => holdsAt_array_congr hs (hm mem) base ..⟩
  case option | custom | fnClosure | other => intros; contradiction
  case zeroSize => exact fun _ => ⟨rfl, fun _ _ => rfl, fun _ _ _ => rfl⟩
  case boxed | reference | slice =>
    exact fun _ _ _ _ => ⟨rfl, fun _ _ => by unfold imgAt; rfl, fun _ _ _ => by unfold holdsAt; rfl⟩
  case fieldsCons =>
    intro _ ta oa ra _ tb ob rb iht ihr hl h
    simp only [Bool.and_eq_true] at h
    obtain ⟨h1, h2⟩ := h
    obtain ⟨hir, hmr⟩ := ihr (Nat.succ.inj hl) h2
    split at h1
    · simp only [Bool.and_eq_true, decide_eq_true_eq] at h1
      obtain ⟨e, ht⟩ := h1
      subst e
      obtain ⟨_, hi, hm⟩ := iht ht
      constructor
      · intro base l
        cases l with
        | nil => rfl
        | cons v vs => simp only [imgFields, hi, hir]
      · intro mem base l
        cases l with
        | nil => rfl
        | cons v vs => simp only [holdsFields, hm, hmr]
    · contradiction
  case fieldsOther =>
    intro fa fb hne hl _
    cases fa <;> cases fb
    · exact ⟨fun _ _ => rfl, fun _ _ _ => rfl⟩
    · cases hl
    · cases hl
    · exact (hne _ _ _ _ _ _ _ _ rfl rfl).elim
  case variantsCons =>
    intro _ da fa ra _ db fb rb ihf ihr hl h
    simp only [Bool.and_eq_true, decide_eq_true_eq] at h
    obtain ⟨⟨⟨hd, hfl⟩, hf⟩, hr⟩ := h
    obtain ⟨hif, hmf⟩ := ihf hfl hf
    obtain ⟨hir, hmr⟩ := ihr (Nat.succ.inj hl) hr
    constructor
    · intro i
      cases i with
      | zero => exact ⟨hd, hif⟩
      | succ i => exact hir i
    · intro mem i
      cases i with
      | zero => exact ⟨hd, hmf mem⟩
      | succ i => exact hmr mem i
  case variantsOther =>
    intro va vb hne hl _
    cases va <;> cases vb
    · exact ⟨fun _ => trivial, fun _ _ => trivial⟩
    · cases hl
    · cases hl
    · exact (hne _ _ _ _ _ _ _ _ rfl rfl).elim

theorem layout_img : ∀ (a b : Schema), layoutCompatible a b = true →
    schemaSize a = schemaSize b ∧ ∀ base x, imgAt base a x = imgAt base b x :=
  fun a b h => ⟨(layout_same.1 a b h).1, (layout_same.1 a b h).2.1⟩

theorem layout_imgV : ∀ (va vb : SVariantL), va.length = vb.length → layoutVariants va vb = true → VariantsAgree va vb :=
  fun va vb hl h => (layout_same.2.1 va vb hl h).1

theorem layout_holds (mem : Mem) : ∀ (a b : Schema), layoutCompatible a b = true →
    ∀ base x, holdsAt mem base a x = holdsAt mem base b x :=
  fun a b h => (layout_same.1 a b h).2.2 mem

theorem layout_holdsF (mem : Mem) : ∀ (fa fb : SFieldL), fa.length = fb.length → layoutFields fa fb = true →
    ∀ base l, holdsFields mem base fa l = holdsFields mem base fb l :=
  fun fa fb hl h => (layout_same.2.2 fa fb hl h).2 mem

theorem layout_holdsV (mem : Mem) : ∀ (va vb : SVariantL), va.length = vb.length → layoutVariants va vb = true → VariantsAgreeH mem va vb :=
  fun va vb hl h => (layout_same.2.1 va vb hl h).2 mem

end Sfv
