import Sfv.Model.WireWf
import Sfv.Lemmas.Bytes
namespace Sfv

theorem match2_some {α β γ} {x : Option α} {y : Option β} {f : α → β → γ} {c : γ}
    (h : (match x, y with | some a, some b => some (f a b) | _, _ => none) = some c) :
    ∃ a b, x = some a ∧ y = some b ∧ f a b = c := by
  cases x <;> cases y <;> simp at h
  exact ⟨_, _, rfl, rfl, h⟩

theorem cat2_some {x y : Option Bytes} {c : Bytes} (h : cat2 x y = some c) :
    ∃ a b, x = some a ∧ y = some b ∧ a ++ b = c := by
  cases x <;> cases y <;> simp [cat2] at h
  exact ⟨_, _, rfl, rfl, h⟩

theorem add2_some {x y : Option Nat} {c : Nat} (h : add2 x y = some c) :
    ∃ a b, x = some a ∧ y = some b ∧ a + b = c := by
  cases x <;> cases y <;> simp [add2] at h
  exact ⟨_, _, rfl, rfl, h⟩

theorem validChar_lt {n : Nat} (h : validChar n = true) : n < 256 ^ 4 := by
  unfold validChar at h
  simp at h
  omega

/-- `enc w v = some bs` holds by exactly the rules below, one per clause of `enc`, `encAlt`, `encProd`, `encAll`
    that returns `some`; four predicates closed under them therefore hold of every encoding. Proofs about
    encodings go through this principle and never meet a value of the wrong shape for its grammar. -/
theorem enc_induct {P : W → V → Bytes → Prop} {PN : WL → Nat → V → Bytes → Prop}
    {PP : WL → VL → Bytes → Prop} {PA : W → VL → Bytes → Prop}
    (fixed : ∀ k n, n < 256 ^ k → P (.fixed k) (.num n) (leBytes k n))
    (bool : ∀ n, n < 2 → P .bool (.num n) [UInt8.ofNat n])
    (char : ∀ n, validChar n = true → P .char (.num n) (leBytes 4 n))
    (str : ∀ cap b, validUtf8 b = true → b.length < 2^64 → overCap cap b.length = false →
      P (.str cap) (.bytes b) (leBytes 8 b.length ++ b))
    (seq : ∀ m t l bs, l.length < 2^64 → overCap m.cap l.length = false → encAll t l = some bs → PA t l bs →
      P (.seq m t) (.seq l) (leBytes 8 l.length ++ bs))
    (optNone : ∀ t, P (.opt t) .none [0])
    (optSome : ∀ t v bs, enc t v = some bs → P t v bs → P (.opt t) (.some v) (1 :: bs))
    (resOk : ∀ a b v bs, enc a v = some bs → P a v bs → P (.res a b) (.alt 1 v) (1 :: bs))
    (resErr : ∀ a b v bs, enc b v = some bs → P b v bs → P (.res a b) (.alt 0 v) (0 :: bs))
    (prod : ∀ ts l bs, encProd ts l = some bs → PP ts l bs → P (.prod ts) (.tup l) bs)
    (rep : ∀ bulk t l bs, encAll t l = some bs → PA t l bs → P (.rep l.length bulk t) (.tup l) bs)
    (tagged : ∀ w alts i v bs, i < 256 ^ w → encAlt alts i v = some bs → PN alts i v bs →
      P (.tagged w alts) (.alt i v) (leBytes w i ++ bs))
    (canary : P .canary (.tup .nil) (leBytes 4 canaryMagic))
    (sysTime : ∀ n, n < 256 ^ 16 → sysTimeCanon n = some n → P .sysTime (.num n) (leBytes 16 n))
    (altHere : ∀ t ts v bs, enc t v = some bs → P t v bs → PN (.cons t ts) 0 v bs)
    (altNext : ∀ t ts i v bs, encAlt ts i v = some bs → PN ts i v bs → PN (.cons t ts) (i+1) v bs)
    (prodNil : PP .nil .nil [])
    (prodCons : ∀ t ts v vs a b, enc t v = some a → encProd ts vs = some b → P t v a → PP ts vs b →
      PP (.cons t ts) (.cons v vs) (a ++ b))
    (allNil : ∀ t, PA t .nil [])
    (allCons : ∀ t v vs a b, enc t v = some a → encAll t vs = some b → P t v a → PA t vs b →
      PA t (.cons v vs) (a ++ b)) :
    (∀ w v bs, enc w v = some bs → P w v bs) ∧ (∀ alts i v bs, encAlt alts i v = some bs → PN alts i v bs)
      ∧ (∀ ts l bs, encProd ts l = some bs → PP ts l bs) ∧ (∀ t l bs, encAll t l = some bs → PA t l bs) := by
  -- one case per clause of the four functions, in their order; a clause with an `if` gives two
  refine enc.mutual_induct (motive1 := fun w v => ∀ bs, enc w v = some bs → P w v bs)
    (motive2 := fun alts i v => ∀ bs, encAlt alts i v = some bs → PN alts i v bs)
    (motive3 := fun ts l => ∀ bs, encProd ts l = some bs → PP ts l bs)
    (motive4 := fun t l => ∀ bs, encAll t l = some bs → PA t l bs)
    ?fixed ?fixedBig ?bool ?boolBig ?char ?charBad ?str ?strBad ?seq ?seqBad ?optNone ?optSome ?resOk ?resErr
    ?prod ?rep ?repLen ?tagged ?taggedBig ?canary ?sysTime ?sysTimeBad ?other
    ?altNil ?altHere ?altNext ?prodNil ?prodCons ?prodOther ?allNil ?allCons
  case fixed => intro k n hn bs h; simp only [enc, hn, if_true, Option.some.injEq] at h; exact h ▸ fixed k n hn
  case fixedBig => intro k n hn bs h; simp only [enc, hn, if_false] at h; cases h
  case bool => intro n hn bs h; simp only [enc, hn, if_true, Option.some.injEq] at h; exact h ▸ bool n hn
  case boolBig => intro n hn bs h; simp only [enc, hn, if_false] at h; cases h
  case char => intro n hn bs h; simp only [enc, hn, if_true, Option.some.injEq] at h; exact h ▸ char n hn
  case charBad => intro n hn bs h; simp only [enc, hn] at h; cases h
  case str =>
    intro cap b hc bs h
    simp only [enc, hc, if_true, Option.some.injEq] at h
    simp only [Bool.and_eq_true, decide_eq_true_eq, Bool.not_eq_true'] at hc
    exact h ▸ str cap b hc.1.1 hc.1.2 hc.2
  case strBad => intro cap b hc bs h; simp only [enc, hc] at h; cases h
  case seq =>
    intro m t l hc ih bs h
    simp only [enc, hc, if_true] at h
    obtain ⟨body, hb, rfl⟩ := Option.map_eq_some_iff.1 h
    simp only [Bool.and_eq_true, decide_eq_true_eq, Bool.not_eq_true'] at hc
    exact seq m t l body hc.1 hc.2 hb (ih body hb)
  case seqBad => intro m t l hc bs h; simp only [enc, hc] at h; cases h
  case optNone => intro t bs h; simp only [enc, Option.some.injEq] at h; exact h ▸ optNone t
  case optSome =>
    intro t v ih bs h; simp only [enc] at h
    obtain ⟨body, hb, rfl⟩ := Option.map_eq_some_iff.1 h
    exact optSome t v body hb (ih body hb)
  case resOk =>
    intro a b v ih bs h; simp only [enc] at h
    obtain ⟨body, hb, rfl⟩ := Option.map_eq_some_iff.1 h
    exact resOk a b v body hb (ih body hb)
  case resErr =>
    intro a b v ih bs h; simp only [enc] at h
    obtain ⟨body, hb, rfl⟩ := Option.map_eq_some_iff.1 h
    exact resErr a b v body hb (ih body hb)
  case prod => intro ts l ih bs h; simp only [enc] at h; exact prod ts l bs h (ih bs h)
  case rep => intro bulk t l ih bs h; simp only [enc, if_true] at h; exact rep bulk t l bs h (ih bs h)
  case repLen => intro n bulk t l hn bs h; simp only [enc, hn, if_false] at h; cases h
  case tagged =>
    intro w alts i v hi ih bs h
    simp only [enc, hi, if_true] at h
    obtain ⟨body, hb, rfl⟩ := Option.map_eq_some_iff.1 h
    exact tagged w alts i v body hi hb (ih body hb)
  case taggedBig => intro w alts i v hi bs h; simp only [enc, hi, if_false] at h; cases h
  case canary => intro bs h; simp only [enc, Option.some.injEq] at h; exact h ▸ canary
  case sysTime => intro n hn bs h; simp only [enc, if_pos hn, Option.some.injEq] at h; exact h ▸ sysTime n hn.1 hn.2
  case sysTimeBad => intro n hn bs h; simp only [enc, if_neg hn] at h; cases h
  -- the fourteen hypotheses say that `(w, v)` matches no clause above: the side conditions of `enc`'s last equation
  case other => intro w v _ _ _ _ _ _ _ _ _ _ _ _ _ _ bs h; rw [enc] at h <;> first | cases h | assumption
  case altNil => intro i v bs h; simp only [encAlt] at h; cases h
  case altHere => intro t ts v ih bs h; simp only [encAlt] at h; exact altHere t ts v bs h (ih bs h)
  case altNext => intro t ts i v ih bs h; simp only [encAlt] at h; exact altNext t ts i v bs h (ih bs h)
  case prodNil => intro bs h; simp only [encProd, Option.some.injEq] at h; exact h ▸ prodNil
  case prodCons =>
    intro t ts v vs ih1 ih2 bs h; simp only [encProd] at h
    obtain ⟨a, b, ha, hb, rfl⟩ := cat2_some h
    exact prodCons t ts v vs a b ha hb (ih1 a ha) (ih2 b hb)
  case prodOther => intro ts l _ _ bs h; rw [encProd] at h <;> first | cases h | assumption
  case allNil => intro t bs h; simp only [encAll, Option.some.injEq] at h; exact h ▸ allNil t
  case allCons =>
    intro t v vs ih1 ih2 bs h; simp only [encAll] at h
    obtain ⟨a, b, ha, hb, rfl⟩ := cat2_some h
    exact allCons t v vs a b ha hb (ih1 a ha) (ih2 b hb)

theorem enc_size_all :
    (∀ w v bs, enc w v = some bs → ∀ k, fixedSize w = some k → bs.length = k)
    ∧ (∀ alts i v bs, encAlt alts i v = some bs → ∀ s, allSize s alts = true → bs.length = s)
    ∧ (∀ ts l bs, encProd ts l = some bs → ∀ k, fixedSizeL ts = some k → bs.length = k)
    ∧ (∀ t l bs, encAll t l = some bs → ∀ k, fixedSize t = some k → bs.length = k * l.length) :=
  enc_induct
    (fixed := fun _ _ _ _ hk => by cases hk; exact leBytes_length _ _)
    (bool := fun _ _ _ hk => by cases hk; rfl)
    (char := fun _ _ _ hk => by cases hk; exact leBytes_length _ _)
    (str := fun _ _ _ _ _ _ hk => nomatch hk)
    (seq := fun _ _ _ _ _ _ _ _ _ hk => nomatch hk)
    (optNone := fun _ _ hk => nomatch hk)
    (optSome := fun _ _ _ _ _ _ hk => nomatch hk)
    (resOk := fun _ _ _ _ _ _ _ hk => nomatch hk)
    (resErr := fun _ _ _ _ _ _ _ hk => nomatch hk)
    (prod := fun _ _ _ _ ih => ih)
    (rep := fun _ _ _ _ _ ih _ hk => by
      obtain ⟨s, hs, rfl⟩ := Option.map_eq_some_iff.1 hk
      rw [ih s hs, Nat.mul_comm])
    (tagged := fun w alts i v bs _ _ ih k hk => by
      cases alts with
      | nil => cases hk
      | cons t ts =>
        simp only [fixedSize] at hk
        split at hk
        · cases hk
        · next s hs =>
          split at hk
          · next hall =>
            cases hk
            simp [leBytes_length, ih s (by simp [allSize, hs, hall])]
          · cases hk)
    (canary := fun _ hk => by cases hk; exact leBytes_length _ _)
    (sysTime := fun _ _ _ _ hk => by cases hk; exact leBytes_length _ _)
    (altHere := fun _ _ _ _ _ ih s hs => by
      simp only [allSize, Bool.and_eq_true, beq_iff_eq] at hs
      exact ih s hs.1)
    (altNext := fun _ _ _ _ _ _ ih s hs => by
      simp only [allSize, Bool.and_eq_true] at hs
      exact ih s hs.2)
    (prodNil := fun _ hk => by cases hk; rfl)
    (prodCons := fun _ _ _ _ _ _ _ _ ih1 ih2 _ hk => by
      obtain ⟨ka, kb, hka, hkb, rfl⟩ := add2_some hk
      simp [ih1 ka hka, ih2 kb hkb])
    (allNil := fun _ _ _ => by simp [VL.length])
    (allCons := fun _ _ _ _ _ _ _ ih1 ih2 k hk => by
      simp [VL.length, ih1 k hk, ih2 k hk, Nat.mul_add, Nat.add_comm])

theorem enc_size : ∀ (w : W) (v : V) (bs : Bytes) (k : Nat),
    enc w v = some bs → fixedSize w = some k → bs.length = k :=
  fun w v bs k h hk => enc_size_all.1 w v bs h k hk

theorem encAll_size : ∀ (t : W) (l : VL) (bs : Bytes) (k : Nat),
    encAll t l = some bs → fixedSize t = some k → bs.length = k * l.length :=
  fun t l bs k h hk => enc_size_all.2.2.2 t l bs h k hk

theorem encProd_size : ∀ (ts : WL) (l : VL) (bs : Bytes) (k : Nat),
    encProd ts l = some bs → fixedSizeL ts = some k → bs.length = k :=
  fun ts l bs k h hk => enc_size_all.2.2.1 ts l bs h k hk

theorem encAlt_size : ∀ (alts : WL) (i : Nat) (v : V) (bs : Bytes) (s : Nat),
    encAlt alts i v = some bs → allSize s alts = true → bs.length = s :=
  fun alts i v bs s h hs => enc_size_all.2.1 alts i v bs h s hs

end Sfv
