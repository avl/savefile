import Sfv.Model.Wire
namespace Sfv

theorem leBytes_length (k n : Nat) : (leBytes k n).length = k := by
  induction k generalizing n with
  | zero => rfl
  | succ k ih => simp [leBytes, ih]

theorem ofLE_leBytes (k n : Nat) (h : n < 256 ^ k) : ofLE (leBytes k n) = n := by
  induction k generalizing n with
  | zero => exact (Nat.lt_one_iff.1 h).symm
  | succ k ih =>
    simp only [leBytes, ofLE]
    rw [ih _ (Nat.div_lt_of_lt_mul (Nat.mul_comm .. ▸ (Nat.pow_succ .. ▸ h))), UInt8.toNat_ofNat',
      Nat.mod_mod_of_dvd _ (by decide : 256 ∣ 2 ^ 8)]
    exact Nat.mod_add_div n 256

theorem ofLE_lt (bs : Bytes) : ofLE bs < 256 ^ bs.length := by
  induction bs with
  | nil => exact Nat.one_pos
  | cons b bs ih =>
    simp only [ofLE, List.length_cons, Nat.pow_succ]
    calc b.toNat + 256 * ofLE bs < 256 + 256 * ofLE bs := Nat.add_lt_add_right b.toNat_lt _
      _ = 256 * (ofLE bs + 1) := by rw [Nat.mul_succ, Nat.add_comm]
      _ ≤ 256 * 256 ^ bs.length := Nat.mul_le_mul_left _ ih
      _ = 256 ^ bs.length * 256 := Nat.mul_comm ..

theorem leBytes_ofLE (bs : Bytes) : leBytes bs.length (ofLE bs) = bs := by
  induction bs with
  | nil => rfl
  | cons b bs ih =>
    simp only [List.length_cons, leBytes, ofLE]
    rw [Nat.add_mul_mod_self_left, Nat.mod_eq_of_lt b.toNat_lt, Nat.add_mul_div_left _ _ (by decide),
      Nat.div_eq_of_lt b.toNat_lt, Nat.zero_add, ih, UInt8.ofNat_toNat]

theorem takeN_append (k : Nat) (a r : Bytes) (h : a.length = k) : takeN k (a ++ r) = some (a, r) := by
  subst h; simp [takeN]

theorem takeN_some {k : Nat} {bs a r : Bytes} (h : takeN k bs = some (a, r)) :
    bs = a ++ r ∧ a.length = k := by
  unfold takeN at h
  split at h
  · next hk =>
    cases h
    exact ⟨(List.take_append_drop k bs).symm, by simp [List.length_take]; omega⟩
  · cases h

theorem takeN_none_of {k : Nat} {bs : Bytes} (h : takeN k bs = none) : bs.length < k := by
  unfold takeN at h
  split at h
  · cases h
  · omega

theorem takeN_mono {k : Nat} {bs a r : Bytes} (s : Bytes) (h : takeN k bs = some (a, r)) :
    takeN k (bs ++ s) = some (a, r ++ s) := by
  obtain ⟨rfl, hl⟩ := takeN_some h
  rw [List.append_assoc]
  exact takeN_append k a (r ++ s) hl

theorem readLE_leBytes (k n : Nat) (r : Bytes) (h : n < 256 ^ k) :
    readLE k (leBytes k n ++ r) = .ok (n, r) := by
  simp [readLE, takeN_append _ _ _ (leBytes_length k n), ofLE_leBytes k n h]

theorem pow8 : (256 : Nat) ^ 8 = 2 ^ 64 := by decide
theorem pow4 : (256 : Nat) ^ 4 = 2 ^ 32 := by decide

theorem readLE8_leBytes (n : Nat) (r : Bytes) (h : n < 2 ^ 64) : readLE 8 (leBytes 8 n ++ r) = .ok (n, r) :=
  readLE_leBytes 8 n r (pow8 ▸ h)

theorem readLE1_cons (b : UInt8) (r : Bytes) : readLE 1 (b :: r) = .ok (b.toNat, r) := rfl

theorem readLE_ok {k : Nat} {bs r : Bytes} {n : Nat} (h : readLE k bs = .ok (n, r)) :
    ∃ a, bs = a ++ r ∧ a.length = k ∧ ofLE a = n := by
  unfold readLE at h
  split at h
  · cases h
  · next a r' ht =>
    cases h
    obtain ⟨h1, h2⟩ := takeN_some ht
    exact ⟨a, h1, h2, rfl⟩

theorem readLE_mono {k : Nat} {bs r : Bytes} {n : Nat} (s : Bytes) (h : readLE k bs = .ok (n, r)) :
    readLE k (bs ++ s) = .ok (n, r ++ s) := by
  unfold readLE at h ⊢
  split at h
  · cases h
  · next a r' ht =>
    cases h
    rw [takeN_mono s ht]

theorem readLE_len {k : Nat} {bs r : Bytes} {n : Nat} (h : readLE k bs = .ok (n, r)) :
    bs.length = k + r.length := by
  obtain ⟨a, h1, h2, _⟩ := readLE_ok h
  subst h1; simp [h2]

theorem takeN_len {k : Nat} {bs a r : Bytes} (h : takeN k bs = some (a, r)) : bs.length = k + r.length := by
  obtain ⟨rfl, ha⟩ := takeN_some h; simp [ha]


/-- a size within the limit the writer observes passes the reader's sanity check (`g`: whether the check is on) -/
theorem sane_of_limit {g : Bool} {n : Nat} (h : (!g || decide (n ≤ 1000000)) = true) :
    (g && decide (n > 1000000)) = false := by
  cases g
  · rfl
  · exact decide_eq_false (Nat.not_lt.2 (of_decide_eq_true h))

/-! ### readers

    The readers of the model (`dec`, `decSchema`, `load`, …) are nests of
    `match x with | .error e => .error e | .ok (a, r) => …`: sequential compositions. `DecR.andThen` names one
    layer; a property that a composition has because its parts have it is stated with closure lemmas
    (`Reads.andThen`, …) and shown for a reader on its equation in `andThen` form (Lemmas/WireRead, SchemaRead). -/

def DecR.andThen {α β : Type} (x : DecR α) (k : α → Bytes → DecR β) : DecR β :=
  match x with
  | .error e => .error e
  | .ok (a, r) => k a r

theorem DecR.ok_andThen {α β : Type} (a : α) (r : Bytes) (k : α → Bytes → DecR β) :
    DecR.andThen (.ok (a, r)) k = k a r := rfl

theorem DecR.andThen_ok {α β : Type} {x : DecR α} {k : α → Bytes → DecR β} {b : β × Bytes}
    (h : x.andThen k = .ok b) : ∃ a r, x = .ok (a, r) ∧ k a r = .ok b := by
  rcases x with e | ⟨a, r⟩
  · cases h
  · exact ⟨a, r, rfl, h⟩

/-- On success `f` has consumed at least `m` bytes, and it hands through the bytes `s` appended to its input:
    consumed length and monotonicity in the input are the two halves. -/
def Reads {α : Type} (s : Bytes) (m : Nat) (f : Bytes → DecR α) : Prop :=
  ∀ bs a r, f bs = .ok (a, r) → r.length + m ≤ bs.length ∧ f (bs ++ s) = .ok (a, r ++ s)

theorem readLE_reads (s : Bytes) (k : Nat) : Reads s k (readLE k) :=
  fun _ _ _ h => ⟨Nat.le_of_eq (Nat.add_comm .. ▸ (readLE_len h).symm), readLE_mono s h⟩

/-- the consumed lengths of two reads in a row add up: `m` bytes from `b` left `a`, then `k` from `a` left `c` -/
theorem consumed_add {a b c m k : Nat} (h1 : a + m ≤ b) (h2 : c + k ≤ a) : c + (m + k) ≤ b :=
  Nat.le_trans (Nat.add_assoc .. ▸ Nat.add_right_comm .. ▸ Nat.add_le_add_right h2 m) h1

theorem guard_append {k : Nat} {r : Bytes} (s : Bytes) (h : ¬ k > r.length) : ¬ k > (r ++ s).length :=
  fun h' => h (Nat.lt_of_le_of_lt (List.length_append ▸ Nat.le_add_right ..) h')

/-- an `if` whose then-value is not `b` equals `b` only through its else-branch -/
theorem ite_eq_iff_of_ne {α : Type} {c : Prop} [Decidable c] {a x b : α} (h : a ≠ b) :
    (if c then a else x) = b ↔ ¬ c ∧ x = b := by
  split <;> simp [*]

/-- a successful reader has passed its guard -/
theorem ok_of_ite {ε α : Type} {c : Prop} [Decidable c] {y x : Except ε α} {b : α}
    (h : (if c then y else x) = .ok b) (hy : y ≠ .ok b) : ¬ c ∧ x = .ok b :=
  (ite_eq_iff_of_ne hy).1 h

namespace Reads
variable {α β : Type} {s : Bytes} {m k : Nat}

theorem ok (a : α) : Reads s 0 (fun r => (.ok (a, r) : DecR α)) :=
  fun _ _ _ h => by cases h; exact ⟨Nat.le_refl _, rfl⟩

theorem error (e : Fail) : Reads s m (fun _ => (.error e : DecR α)) :=
  fun _ _ _ h => nomatch h

theorem weaken {f : Bytes → DecR α} {m' : Nat} (hm : m' ≤ m) (hf : Reads s m f) : Reads s m' f :=
  fun _ _ _ h => ⟨Nat.le_trans (Nat.add_le_add_left hm _) (hf _ _ _ h).1, (hf _ _ _ h).2⟩

theorem andThen {x : Bytes → DecR α} {f : α → Bytes → DecR β} (hx : Reads s m x) (hf : ∀ a, Reads s k (f a)) :
    Reads s (m + k) (fun bs => (x bs).andThen f) := by
  intro bs b r h
  obtain ⟨a, r1, hxb, h⟩ := DecR.andThen_ok h
  refine ⟨consumed_add (hx _ _ _ hxb).1 (hf _ _ _ _ h).1, ?_⟩
  show (x (bs ++ s)).andThen f = _
  rw [(hx _ _ _ hxb).2]
  exact (hf _ _ _ _ h).2

theorem ite {c : Prop} [Decidable c] {f g : Bytes → DecR α} (hf : Reads s m f) (hg : Reads s m g) :
    Reads s m (fun r => if c then f r else g r) := by
  split <;> assumption

/-- `Reads.ite` takes a condition that does not mention the remainder; a condition on `r.length` must survive
    appending `s`, which `n > r.length` does (`guard_append`). -/
theorem guard {f : Bytes → DecR α} (n : Nat) (e : Fail) (hf : Reads s m f) :
    Reads s m (fun r => if n > r.length then .error e else f r) := by
  intro bs a r h
  obtain ⟨hn, h⟩ := ok_of_ite h nofun
  exact ⟨(hf _ _ _ h).1, (if_neg (guard_append s hn)).trans (hf _ _ _ h).2⟩

end Reads

/-- The second half of `Reads`, for two readers (the same reader at two amounts of fuel): every success of `f` is a
    success of `f'` on the input with `s` appended, with the same value and `s` left over as well. -/
def Mono {α : Type} (s : Bytes) (f f' : Bytes → DecR α) : Prop :=
  ∀ bs a r, f bs = .ok (a, r) → f' (bs ++ s) = .ok (a, r ++ s)

namespace Mono
variable {α β : Type} {s : Bytes}

theorem ok (a : α) : Mono s (fun r => .ok (a, r)) (fun r => .ok (a, r)) := by
  intro bs a r h
  cases h
  rfl

theorem error (e : Fail) (f' : Bytes → DecR α) : Mono s (fun _ => .error e) f' :=
  fun _ _ _ h => nomatch h

theorem andThen {x x' : Bytes → DecR α} {k k' : α → Bytes → DecR β} (hx : Mono s x x') (hk : ∀ a, Mono s (k a) (k' a)) :
    Mono s (fun bs => (x bs).andThen k) (fun bs => (x' bs).andThen k') := by
  intro bs b r (h : (x bs).andThen k = _)
  show (x' (bs ++ s)).andThen k' = _
  cases hxb : x bs with
  | error e => rw [hxb] at h; cases h
  | ok p =>
    rw [hxb] at h
    rw [hx _ _ _ hxb]
    exact hk _ _ _ _ h

theorem ite {c : Prop} [Decidable c] {f f' g g' : Bytes → DecR α} (hf : Mono s f f') (hg : Mono s g g') :
    Mono s (fun r => if c then f r else g r) (fun r => if c then f' r else g' r) := by
  by_cases hc : c
  · simp only [hc, if_true]
    exact hf
  · simp only [hc, if_false]
    exact hg

end Mono

theorem Reads.mono {α : Type} {s : Bytes} {m : Nat} {f : Bytes → DecR α} (h : Reads s m f) : Mono s f f :=
  fun bs a r hq => (h bs a r hq).2

theorem Mono.readLE {s : Bytes} {k : Nat} : Mono s (readLE k) (readLE k) := (readLE_reads s k).mono

set_option hygiene false in
/-- For the readers that have no equation in `andThen` form (`decHeader`, `loadFile`, `load`, `readUtf8`): one layer
    `match f bs with | <failure> => … | <success> (a, r) => …` of the hypothesis `h`, with the same layer over
    `bs ++ s` in the goal. The failure branch contradicts `h`. On success the equation `hx : f bs = … (_a, _r)`
    is named, and `lem hx`, an equation for `f (bs ++ s)`, rewrites the goal. -/
macro "read_step " lem:term : tactic => `(tactic| (
  split at h
  · cases h
  rename_i _a _r hx
  have := $lem hx
  simp only [this]))


end Sfv
