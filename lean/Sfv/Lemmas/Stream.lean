/-
  Sfv.Lemmas.Stream — `write_all`/`read_exact` over arbitrary scripts.  Each loop and each kind of program has one
  statement saying all that holds of it: what was transferred, what success means, and that a script with short
  transfers and interruptions only cannot make it fail.
-/
import Sfv.Model.Stream
namespace Sfv

/-- Whatever the script does, `write_all` adds a prefix `t` of the buffer to what was accepted: all of it on
    success, and a script without `Ok(0)` and hard errors gives success. -/
theorem writeAll_spec (sc : List WOut) (buf acc : Bytes) :
    ∃ sc' t r, writeAll sc buf acc = (sc', acc ++ t, r) ∧ t <+: buf ∧ (r = .ok () → t = buf)
      ∧ (benignW sc = true → r = .ok () ∧ benignW sc' = true) := by
  -- per clause of `writeAll`: the witnesses `sc'`, `t`, `r`; then, in this order, the equation, `t <+: buf`,
  -- success takes all, a benign script succeeds
  fun_induction writeAll sc buf acc with
  | case1 sc acc =>                   -- nothing left to write
    refine ⟨sc, [], .ok (), ?_, List.nil_prefix, fun _ => rfl, fun h => ⟨rfl, h⟩⟩
    rw [List.append_nil]
  | case2 b buf acc =>                -- script exhausted: everything is accepted
    exact ⟨[], b :: buf, .ok (), rfl, List.prefix_rfl, fun _ => rfl, fun h => ⟨rfl, h⟩⟩
  | case3 sc b buf acc =>             -- `Ok(0)` (as `.acc 0`): `WriteZero`, nothing taken
    refine ⟨sc, [], .error .writeZero, ?_, List.nil_prefix, ?_, ?_⟩
    · rw [List.append_nil]
    · nofun                           -- the result is no success
    · nofun                           -- `.acc 0 :: sc` is not benign
  | case4 n sc b buf acc hn ih =>     -- short write of `m` bytes, then the rest of the buffer (`ih`)
    generalize min n (b :: buf).length = m at ih ⊢
    obtain ⟨sc', t, r, h, hp, hall, hben⟩ := ih
    refine ⟨sc', (b :: buf).take m ++ t, r, ?_, ?_, ?_, ?_⟩
    · rw [h, List.append_assoc]
    · -- `take m ++ t <+: take m ++ drop m`
      simpa only [List.take_append_drop] using (List.prefix_append_right_inj ((b :: buf).take m)).mpr hp
    · intro hr
      rw [hall hr, List.take_append_drop]
    · -- `benignW (.acc n :: sc) = (decide (n ≥ 1) && benignW sc)`
      exact fun h' => hben (Bool.and_eq_true_iff.mp h').2
  | case5 sc b buf acc ih =>          -- `Interrupted`: retried; `benignW (.intr :: sc)` is `benignW sc`
    exact ih
  | case6 sc b buf acc =>             -- `Ok(0)`: `WriteZero`, nothing taken
    refine ⟨sc, [], .error .writeZero, ?_, List.nil_prefix, ?_, ?_⟩
    · rw [List.append_nil]
    · nofun
    · nofun                           -- `.zero :: sc` is not benign
  | case7 k sc b buf acc =>           -- hard error, passed through, nothing taken
    refine ⟨sc, [], .error (.kind k), ?_, List.nil_prefix, ?_, ?_⟩
    · rw [List.append_nil]
    · nofun
    · nofun                           -- `.err k :: sc` is not benign

theorem doFlush_spec : ∀ fs : List Bool,
    ∃ fs' r, doFlush fs = (fs', r) ∧ (fs.all id = true → r = .ok () ∧ fs'.all id = true)
  | [] => ⟨_, _, rfl, fun h => ⟨rfl, h⟩⟩
  | true :: _ => ⟨_, _, rfl, fun h => ⟨rfl, h⟩⟩
  | false :: _ => ⟨_, _, rfl, nofun⟩

/-- A writer program: the bytes accepted are a prefix `t` of the fault-free output: all of it on success (no silent
    success), and short writes and interruptions alone give success. -/
theorem runOps_spec (ops : List WOp) (sc : List WOut) (fs : List Bool) (acc : Bytes) :
    ∃ t r, runOps sc fs ops acc = (acc ++ t, r) ∧ t <+: opsBytes ops ∧ (r = .ok () → t = opsBytes ops)
      ∧ (benignW sc = true → fs.all id = true → r = .ok ()) := by
  fun_induction runOps sc fs ops acc with
  | case1 sc fs acc => exact ⟨[], _, by rw [List.append_nil], List.nil_prefix, fun _ => rfl, fun _ _ => rfl⟩
  | case2 sc fs b ops acc sc' acc' hw ih =>
    obtain ⟨_, t, _, hw', -, hok, hb⟩ := writeAll_spec sc b acc
    cases hw.symm.trans hw'
    obtain rfl := hok rfl
    obtain ⟨t2, r2, h2, hp2, hok2, hb2⟩ := ih
    exact ⟨t ++ t2, r2, by rw [h2, List.append_assoc], (List.prefix_append_right_inj t).mpr hp2,
      fun hr => by rw [hok2 hr, opsBytes], fun h => hb2 (hb h).2⟩
  | case3 sc fs b ops acc sc' acc' e hw =>
    obtain ⟨_, t, _, hw', hp, -, hb⟩ := writeAll_spec sc b acc
    cases hw.symm.trans hw'
    exact ⟨t, _, rfl, hp.trans (List.prefix_append b _), nofun, fun h => nomatch (hb h).1⟩
  | case4 sc fs ops acc fs' hf ih =>
    obtain ⟨_, _, hf', hb⟩ := doFlush_spec fs
    cases hf.symm.trans hf'
    obtain ⟨t, r, h, hp, hok, hb2⟩ := ih
    exact ⟨t, r, h, hp, hok, fun h1 h2 => hb2 h1 (hb h2).2⟩
  | case5 sc fs ops acc fs' e hf =>
    obtain ⟨_, _, hf', hb⟩ := doFlush_spec fs
    cases hf.symm.trans hf'
    exact ⟨[], .error e, by rw [List.append_nil], List.nil_prefix, nofun, fun _ h => nomatch (hb h).1⟩

/-- Whatever the script does: if `read_exact` succeeds it has delivered exactly the next `want` bytes; and with short
    reads and interruptions only, it fails only when there are not that many, with `UnexpectedEof`. -/
theorem readExact_spec (sc : List ROut) (data : Bytes) (want : Nat) (got : Bytes) :
    ∃ sc' data' r, readExact sc data want got = (sc', data', r)
      ∧ (∀ bs, r = .ok bs → want ≤ data.length ∧ bs = got ++ data.take want ∧ data' = data.drop want)
      ∧ (benignR sc = true → benignR sc' = true ∧ ∀ e, r = .error e → e = .eof ∧ data.length < want) := by
  -- per clause of `readExact`: the witnesses `sc'`, `data'`, `r`; then, in this order, the equation, what a
  -- success delivered, and for a benign script: the rest is benign, a failure is a genuine end of data
  fun_induction readExact sc data want got with
  | case1 sc data got =>              -- nothing left to read
    refine ⟨sc, data, .ok got, rfl, ?_, fun hb => ⟨hb, nofun⟩⟩
    intro bs hbs
    cases hbs
    exact ⟨Nat.zero_le _, (List.append_nil got).symm, rfl⟩   -- `take 0`, `drop 0`
  | case2 data want got h =>          -- script exhausted, enough data: delivered at once
    refine ⟨[], _, _, rfl, ?_, fun hb => ⟨hb, nofun⟩⟩
    intro bs hbs
    cases hbs
    exact ⟨h, rfl, rfl⟩
  | case3 data want got h =>          -- script exhausted, too little data: `UnexpectedEof`
    refine ⟨[], [], .error .eof, rfl, nofun, fun hb => ⟨hb, ?_⟩⟩
    intro e he
    cases he
    exact ⟨rfl, Nat.lt_of_not_ge h⟩
  | case4 n sc data want got h =>     -- a read of nothing: `UnexpectedEof`; benign only if the data is at its end
    refine ⟨_, _, _, rfl, nofun, fun h' => ?_⟩
    obtain ⟨hn, hsc⟩ := Bool.and_eq_true_iff.mp h'
    refine ⟨hsc, fun _ he => ?_⟩
    cases he
    obtain rfl : data = [] := h.resolve_left (Nat.ne_of_gt (of_decide_eq_true hn))
    exact ⟨rfl, Nat.succ_pos _⟩
  | case5 n sc data want got h k ih => -- short read of `k` bytes, then the rest (`ih`)
    have hk1 : k ≤ want + 1 := Nat.le_trans (Nat.min_le_right ..) (Nat.min_le_left ..)
    have hk2 : k ≤ data.length := Nat.le_trans (Nat.min_le_right ..) (Nat.min_le_right ..)
    have hlen : (data.drop k).length = data.length - k := List.length_drop
    obtain ⟨sc', data', r, hr, hok, hb⟩ := ih
    refine ⟨sc', data', r, hr, fun bs hbs => ?_, fun h' => ?_⟩
    · obtain ⟨h1, h2, h3⟩ := hok bs hbs
      refine ⟨(Nat.sub_le_sub_iff_right hk2).mp (hlen ▸ h1), ?_, ?_⟩
      · rw [h2, List.append_assoc, ← List.take_add, Nat.add_sub_cancel' hk1]
      · rw [h3, List.drop_drop, Nat.add_sub_cancel' hk1]
    · obtain ⟨h1, h2⟩ := hb (Bool.and_eq_true_iff.mp h').2
      exact ⟨h1, fun e he => ⟨(h2 e he).1, (Nat.sub_lt_sub_iff_right hk2).mp (hlen ▸ (h2 e he).2)⟩⟩
  | case6 sc data want got ih =>      -- `Interrupted`: retried
    exact ih
  | case7 k sc data want got =>       -- hard error, passed through: no success, script not benign
    exact ⟨sc, data, .error (.kind k), rfl, nofun, nofun⟩

/-- A reader program over a chunked, faulty reader ends as on the whole data — in particular it never returns a
    different value — or with an I/O error; and the error needs a fault in the script: how a benign reader splits
    the data does not matter. -/
theorem RP.run_spec {α : Type} : ∀ (p : RP α) (sc : List ROut) (data : Bytes),
    (p.run sc data).1 = (p.runWhole data).1 ∨ (¬ benignR sc = true ∧ ∃ e, (p.run sc data).1 = .io e)
  | .ret a, sc, data => .inl rfl
  | .fail e, sc, data => .inl rfl
  | .read n k, sc, data => by
    obtain ⟨sc', data', r, hr, hok, hb⟩ := readExact_spec sc data n []
    cases r with
    | ok bs =>
      obtain ⟨hle, rfl, rfl⟩ := hok bs rfl
      simp only [RP.run, hr, RP.runWhole, ge_iff_le, hle, if_true]
      exact (RP.run_spec (k _) sc' _).imp_right fun h => ⟨fun hs => h.1 (hb hs).1, h.2⟩
    | error e =>
      simp only [RP.run, hr, RP.runWhole]
      by_cases hs : benignR sc = true
      · obtain ⟨rfl, hlt⟩ := (hb hs).2 e rfl
        exact .inl (by rw [if_neg (Nat.not_le_of_lt hlt)])
      · exact .inr ⟨hs, e, rfl⟩

end Sfv
