import Sfv.Model.SchemaWire
import Sfv.Lemmas.Ty
import Sfv.Lemmas.RoundTrip
namespace Sfv

theorem guard_miss {ctx : List String} {key : String} {cb : List String → Schema}
    (h : (ctxIndex key ctx 0).isNone = true) : guard ctx key cb = cb (ctx ++ [key]) := by
  unfold guard
  cases hc : ctxIndex key ctx 0 with
  | none => rfl
  | some d => simp [hc] at h

theorem schemaOfAs_none (sc : SCfg) : ∀ (as : AsL) (v : Nat) (ctx : List String) (name : Bytes),
    asHas as v = false → schemaOfAs sc as v ctx name = .nil
  | .nil, _, _, _, _ => rfl
  | .cons r old c rest, v, ctx, name, h => by
    dsimp only [asHas] at h
    simp only [Bool.or_eq_false_iff] at h
    dsimp only [schemaOfAs]
    rw [h.1, schemaOfAs_none sc rest v ctx name h.2]
    rfl

theorem primWire_schema (p : Prim) : schemaWire (primSchema p) = some (erase p.wire) := by
  cases p <;> rfl

/- For types in the fragment whose guards all miss, the schema read as a grammar is exactly the byte
   structure of what the writer emits. Each case unfolds the three functions at the constructor (`dsimp only`:
   `simp only [schemaOf]` would collect all its equations at every call) and rewrites with the members' cases. -/
mutual
theorem faithful (sc : SCfg) (v : Nat) (hv : v ≤ u32Max) : ∀ (T : Ty) (ctx : List String),
    frag T v = true → guardsMiss T v ctx = true →
    schemaWire (schemaOf sc T v ctx) = some (erase (saveWire T v))
  | .prim p => fun _ _ _ => primWire_schema p
  | .str cap std => fun _ _ _ => rfl
  | .seq k t => fun ctx hf hg => by
    cases k with
    | indexSet => cases hf
    | arrayVec c =>
      dsimp only [schemaOf, saveWire, schemaWire, erase]
      simp only [faithful sc v hv t ctx hf hg, Option.map_some]
    | _ =>
      dsimp only [guardsMiss] at hg
      simp only [Bool.and_eq_true] at hg
      dsimp only [schemaOf, saveWire, schemaWire, erase]
      simp only [guard_miss hg.1, faithful sc v hv t _ hf hg.2, Option.map_some]
  | .map btree k x => fun ctx hf hg => by
    dsimp only [frag, guardsMiss] at hf hg
    simp only [Bool.and_eq_true] at hf hg
    obtain ⟨⟨⟨g1, g2⟩, g3⟩, g4⟩ := hg
    dsimp only [schemaOf, saveWire, schemaWire, schemaWireF, erase, eraseL]
    simp only [guard_miss g1, guard_miss g3, faithful sc v hv k _ hf.1 g2, faithful sc v hv x _ hf.2 g4,
      optMap2, Option.map_some]
  | .opt t => fun ctx hf hg => by
    dsimp only [schemaOf, saveWire, schemaWire, erase]
    simp only [faithful sc v hv t ctx hf hg, Option.map_some]
  | .wrap k t => fun ctx hf hg => by
    cases k with
    | boxed =>
      dsimp only [guardsMiss] at hg
      simp only [Bool.and_eq_true] at hg
      dsimp only [schemaOf, saveWire]
      simp only [guard_miss hg.1, faithful sc v hv t _ hf hg.2]
    | _ => exact faithful sc v hv t ctx hf hg
  | .tup lay offs ts => fun ctx hf hg => by
    dsimp only [schemaOf, saveWire, schemaWire, erase]
    simp only [faithfulL sc v hv ts ctx offs 0 hf hg, Option.map_some]
  | .arr n t => fun ctx hf hg => by
    dsimp only [guardsMiss] at hg
    simp only [Bool.and_eq_true] at hg
    dsimp only [schemaOf, saveWire, schemaWire, erase]
    simp only [guard_miss hg.1, faithful sc v hv t _ hf hg.2, Option.map_some]
  | .struct name repr lay fs => fun ctx hf hg => by
    dsimp only [schemaOf, saveWire, schemaWire, erase]
    simp only [faithfulF sc v hv fs ctx true hf hg, Option.map_some]
  | .enum name repr lay vs => fun ctx hf hg => by
    dsimp only [frag] at hf
    simp only [Bool.and_eq_true, decide_eq_true_eq] at hf
    dsimp only [schemaOf, saveWire, schemaWire, erase]
    simp only [faithfulV sc v hv vs ctx _ 0 hf.2 hg (by omega), Option.map_some]
  | .ip => fun _ _ _ => rfl
  | .canary => fun _ _ _ => rfl
  | .res _ _ | .sock | .sysTime | .duration | .ioErr => fun _ hf => nomatch hf
theorem faithfulL (sc : SCfg) (v : Nat) (hv : v ≤ u32Max) : ∀ (ts : TyL) (ctx : List String) (offs : List Nat) (i : Nat),
    fragL ts v = true → guardsMissL ts v ctx = true →
    schemaWireF (schemaOfTup sc ts v ctx offs i) = some (eraseL (saveWireL ts v))
  | .nil => fun _ _ _ _ _ => rfl
  | .cons t ts => fun ctx offs i hf hg => by
    dsimp only [fragL, guardsMissL] at hf hg
    simp only [Bool.and_eq_true] at hf hg
    dsimp only [schemaOfTup, schemaWireF, saveWireL, eraseL]
    simp only [faithful sc v hv t ctx hf.1 hg.1, faithfulL sc v hv ts ctx offs.tail (i + 1) hf.2 hg.2, optMap2]
theorem faithfulF (sc : SCfg) (v : Nat) (hv : v ≤ u32Max) : ∀ (fs : FieldL) (ctx : List String) (known : Bool),
    fragF fs v = true → guardsMissF fs v ctx = true →
    schemaWireF (schemaOfFields sc fs v ctx known) = some (eraseL (saveFields fs v))
  | .nil => fun _ _ _ _ => rfl
  | .cons a t as fs => fun ctx known hf hg => by
    dsimp only [fragF, guardsMissF] at hf hg
    simp only [Bool.and_eq_true, Bool.not_eq_true'] at hf hg
    obtain ⟨⟨hft, has⟩, hfr⟩ := hf
    have ih := faithfulF sc v hv fs ctx known hfr hg.2
    have iht := faithful sc v hv t ctx hft hg.1.1
    dsimp only [schemaOfFields, saveFields]
    by_cases hig : a.ignore = true
    · simp only [hig, if_true, ih]
    · simp only [hig, Bool.false_eq_true, if_false]
      by_cases hall : a.r.isAll = true
      · -- the only use of `hv` (versions are `u32` in the code): a range that is `all` ends at `u32Max`
        have hh : a.r.has v = true := by
          have := VerRange.isAll_iff.1 hall
          exact VerRange.has_iff.2 (by omega)
        simp only [hall, hh, if_true, schemaWireF, optMap2, iht, ih, eraseL]
      · simp only [hall, Bool.false_eq_true, if_false, schemaOfAs_none sc as v ctx _ has, SFieldL.append]
        by_cases hh : a.r.has v = true
        · simp only [hh, if_true, schemaWireF, optMap2, iht, ih, eraseL]
        · simp only [hh, Bool.false_eq_true, if_false, ih]
theorem faithfulV (sc : SCfg) (v : Nat) (hv : v ≤ u32Max) : ∀ (vs : VariantL) (ctx : List String) (explicit : Bool) (idx : Nat),
    fragV vs v = true → guardsMissV vs v ctx = true → idx + vs.length ≤ 256 →
    schemaWireV (schemaOfVariants sc vs v ctx explicit idx) idx = some (eraseL (saveVariants vs v))
  | .nil => fun _ _ _ _ _ _ => rfl
  | .cons name r d fs vs => fun ctx explicit idx hf hg hl => by
    dsimp only [fragV, guardsMissV, VariantL.length] at hf hg hl
    simp only [Bool.and_eq_true] at hf hg
    have ihf := fun known => faithfulF sc v hv fs ctx known hf.1.2 hg.1
    have ihr := faithfulV sc v hv vs ctx explicit (idx + 1) hf.2 hg.2 (by omega)
    have hmod : idx % 256 = idx := Nat.mod_eq_of_lt (by omega)
    dsimp only [schemaOfVariants, saveVariants]
    simp only [hf.1.1, if_true, schemaWireV, hmod, ihf, ihr, optMap2, Option.map_some, eraseL, erase]
end


/-! ### erasing reading strategy keeps encodings -/

theorem enc_erase_all :
    (∀ w v bs, enc w v = some bs → enc (erase w) v = some bs)
    ∧ (∀ alts i v bs, encAlt alts i v = some bs → encAlt (eraseL alts) i v = some bs)
    ∧ (∀ ts l bs, encProd ts l = some bs → encProd (eraseL ts) l = some bs)
    ∧ (∀ t l bs, encAll t l = some bs → encAll (erase t) l = some bs) :=
  enc_induct
    (fixed := fun k n hn => by simp only [erase, enc, hn, if_true])
    (bool := fun n hn => by simp only [erase, enc, hn, if_true])
    (char := fun n hn => by simp only [erase, enc, hn, if_true])
    (str := fun cap s hv hlen _ => by simp [erase, enc, hv, hlen, overCap])
    (seq := fun m t l bs hlen _ _ ih => by simp [erase, enc, hlen, overCap, ih])
    (optNone := fun t => by simp only [erase, enc])
    (optSome := fun t v bs _ ih => by simp only [erase, enc, ih, Option.map_some])
    (resOk := fun a b v bs _ ih => by simp only [erase, enc, ih, Option.map_some])
    (resErr := fun a b v bs _ ih => by simp only [erase, enc, ih, Option.map_some])
    (prod := fun ts l bs _ ih => by simp only [erase, enc, ih])
    (rep := fun bulk t l bs _ ih => by simp only [erase, enc, if_true, ih])
    (tagged := fun w alts i v bs hi _ ih => by simp only [erase, enc, hi, if_true, ih, Option.map_some])
    (canary := by simp only [erase, enc])
    (sysTime := fun n hn hc => by simp only [erase, enc, hn, hc, and_self, if_true])
    (altHere := fun t ts v bs _ ih => by simp only [eraseL, encAlt, ih])
    (altNext := fun t ts i v bs _ ih => by simp only [eraseL, encAlt, ih])
    (prodNil := by simp only [eraseL, encProd])
    (prodCons := fun t ts v vs a b _ _ ih1 ih2 => by simp only [eraseL, encProd, ih1, ih2, cat2])
    (allNil := fun t => by simp only [encAll])
    (allCons := fun t v vs a b _ _ ih1 ih2 => by simp only [encAll, ih1, ih2, cat2])

theorem enc_erase : ∀ (w : W) (x : V) (bs : Bytes), enc w x = some bs → enc (erase w) x = some bs :=
  enc_erase_all.1

theorem encAll_erase : ∀ (t : W) (l : VL) (bs : Bytes), encAll t l = some bs → encAll (erase t) l = some bs :=
  enc_erase_all.2.2.2

theorem encProd_erase : ∀ (ts : WL) (l : VL) (bs : Bytes), encProd ts l = some bs → encProd (eraseL ts) l = some bs :=
  enc_erase_all.2.2.1

theorem encAlt_erase : ∀ (alts : WL) (i : Nat) (x : V) (bs : Bytes), encAlt alts i x = some bs → encAlt (eraseL alts) i x = some bs :=
  enc_erase_all.2.1

mutual
theorem wfW_erase : ∀ (w : W), wfW (erase w) = true
  | .fixed _ | .bool | .char | .str _ | .canary | .sysTime => rfl
  | .seq _ t | .rep _ _ t => by dsimp only [erase, wfW]; rw [wfW_erase t]; rfl
  | .opt t => wfW_erase t
  | .res a b => by dsimp only [erase, wfW]; rw [wfW_erase a, wfW_erase b]; rfl
  | .prod ts | .tagged _ ts => wfWL_erase ts
theorem wfWL_erase : ∀ (ts : WL), wfWL (eraseL ts) = true
  | .nil => rfl
  | .cons t ts => by dsimp only [eraseL, wfWL]; rw [wfW_erase t, wfWL_erase ts]; rfl
end

/-! ### a schema that reads as a grammar contains no recursion marker -/

mutual
def hasRecursion : Schema → Bool
  | .struct _ _ _ fs => hasRecursionF fs
  | .enum _ vs _ _ _ _ => hasRecursionV vs
  | .vector t _ => hasRecursion t
  | .array t _ => hasRecursion t
  | .option t => hasRecursion t
  | .boxed t => hasRecursion t
  | .slice t => hasRecursion t
  | .reference t => hasRecursion t
  | .recursion _ => true
  | _ => false
def hasRecursionF : SFieldL → Bool
  | .nil => false
  | .cons _ t _ rest => hasRecursion t || hasRecursionF rest
def hasRecursionV : SVariantL → Bool
  | .nil => false
  | .cons _ _ fs rest => hasRecursionF fs || hasRecursionV rest
end

mutual
theorem schemaWire_noRec : ∀ (s : Schema) (w : W), schemaWire s = some w → hasRecursion s = false
  | .struct _ _ _ fs => fun w h => by
    obtain ⟨ws, hws, _⟩ := Option.map_eq_some_iff.1 h
    exact schemaWireF_noRec fs ws hws
  | .enum _ vs _ _ _ _ => fun w h => by
    obtain ⟨ws, hws, _⟩ := Option.map_eq_some_iff.1 h
    exact schemaWireV_noRec vs 0 ws hws
  | .vector t _ | .array t _ | .option t | .slice t => fun w h => by
    obtain ⟨w', hw', _⟩ := Option.map_eq_some_iff.1 h
    exact schemaWire_noRec t w' hw'
  | .boxed t | .reference t => schemaWire_noRec t
  | .recursion _ => fun _ h => nomatch h
  | .prim _ | .undefined | .zeroSize | .custom _ | .str | .trait _ _ | .fnClosure _ _ | .stdIoError | .future _ _ _ _
  | .uninitSlice | .utcTimestamp => fun _ _ => rfl
theorem schemaWireF_noRec : ∀ (fs : SFieldL) (ws : WL), schemaWireF fs = some ws → hasRecursionF fs = false
  | .nil => fun _ _ => rfl
  | .cons _ t _ rest => fun ws h => by
    obtain ⟨w1, w2, h1, h2, _⟩ := match2_some h
    dsimp only [hasRecursionF]
    rw [schemaWire_noRec t w1 h1, schemaWireF_noRec rest w2 h2]
    rfl
theorem schemaWireV_noRec : ∀ (vs : SVariantL) (i : Nat) (ws : WL), schemaWireV vs i = some ws → hasRecursionV vs = false
  | .nil => fun _ _ _ => rfl
  | .cons _ d fs rest => fun i ws h => by
    dsimp only [schemaWireV] at h
    split at h
    · obtain ⟨w1, w2, h1, h2, _⟩ := match2_some h
      obtain ⟨ws1, hws1, _⟩ := Option.map_eq_some_iff.1 h1
      dsimp only [hasRecursionV]
      rw [schemaWireF_noRec fs ws1 hws1, schemaWireV_noRec rest (i + 1) w2 h2]
      rfl
    · cases h
end

end Sfv
