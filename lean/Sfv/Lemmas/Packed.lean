import Sfv.Model.Layout
namespace Sfv

/-! ### Offset chains partition memory -/

def SlicesOK (mem : Bytes) : List (Nat × Nat) → List Bytes → Prop
  | [], [] => True
  | (o, s) :: rest, img :: imgs => slice mem o s = img ∧ SlicesOK mem rest imgs
  | _, _ => False

theorem SlicesOK.eq_map {mem : Bytes} : ∀ {spans : List (Nat × Nat)} {imgs : List Bytes},
    SlicesOK mem spans imgs → imgs = spans.map fun p => slice mem p.1 p.2
  | [], [], _ => rfl
  | (o, s) :: rest, img :: imgs, h => by rw [List.map_cons, ← h.1, ← SlicesOK.eq_map h.2]
  | [], _ :: _, h => h.elim
  | _ :: _, [], h => h.elim

/-- along a chain of adjacent spans whose last one ends where memory ends, memory from the first offset on is
    the concatenation of the spans' slices -/
theorem chain_drop (mem : Bytes) : ∀ (rest : List (Nat × Nat)) (o s : Nat), chainOk.go mem.length o s rest = true →
    mem.drop o = slice mem o s ++ (rest.map fun p => slice mem p.1 p.2).flatten
  | [] => fun o s h => by
    simp only [chainOk.go, decide_eq_true_eq] at h
    rw [slice, List.take_of_length_le (by rw [List.length_drop]; omega)]
    simp
  | (o', s') :: rest => fun o s h => by
    simp only [chainOk.go, Bool.and_eq_true, decide_eq_true_eq] at h
    rw [List.map_cons, List.flatten_cons, ← chain_drop mem rest o' s' h.2, ← h.1, ← List.drop_drop, slice,
      List.take_append_drop]

/-- a chain that starts at `o`: everything after the first `o` bytes (an enum's tag) -/
theorem chain_from {mem bs : Bytes} {size o s : Nat} {rest : List (Nat × Nat)} (hlen : mem.length = size)
    (hgo : chainOk.go size o s rest = true) (h : ∃ imgs, SlicesOK mem ((o, s) :: rest) imgs ∧ bs = imgs.flatten) :
    mem = slice mem 0 o ++ bs := by
  obtain ⟨imgs, hok, rfl⟩ := h
  subst hlen
  rw [hok.eq_map, List.map_cons, List.flatten_cons, ← chain_drop mem rest o s hgo]
  exact (List.take_append_drop o mem).symm

/-- a complete chain; `chainOk` says nothing about the size when there is no span, hence `hnil` -/
theorem chain_concat {mem bs : Bytes} {size : Nat} {spans : List (Nat × Nat)} (hlen : mem.length = size)
    (hc : chainOk size spans = true) (h : ∃ imgs, SlicesOK mem spans imgs ∧ bs = imgs.flatten)
    (hnil : spans = [] → size = 0) : mem = bs := by
  cases spans with
  | nil =>
    obtain ⟨imgs, hok, rfl⟩ := h
    rw [hok.eq_map, List.eq_nil_of_length_eq_zero (hlen.trans (hnil rfl))]
    rfl
  | cons p rest =>
    obtain ⟨o, s⟩ := p
    simp only [chainOk, Bool.and_eq_true, decide_eq_true_eq] at hc
    obtain ⟨rfl, hgo⟩ := hc
    have := chain_from hlen hgo h
    rwa [slice, List.take_zero, List.nil_append] at this

end Sfv
