import Sfv.Lemmas.SchemaRt
import Sfv.Lemmas.SchemaDiff
namespace Sfv

/- From format 1 on, a trip through format `v` changes nothing but the receiver and async flags of methods,
   and those only below format 2: a schema comes back as itself if `v ≥ 2` or it has no methods. -/
theorem norm_id (v : Nat) (hv : v ≥ 1) :
    (∀ s, v ≥ 2 ∨ dataS s = true → normS v s = s)
    ∧ (∀ d, v ≥ 2 → normD v d = d)
    ∧ (∀ ms, v ≥ 2 → normM v ms = ms)
    ∧ (∀ l, v ≥ 2 → normSL v l = l)
    ∧ (∀ vs, v ≥ 2 ∨ dataSV vs = true → normSV v vs = vs)
    ∧ (∀ fs, v ≥ 2 ∨ dataSF fs = true → normSF v fs = fs) := by
  have hv0 : v > 0 := hv
  refine normS.mutual_induct_unfolding v
    (motive_1 := fun s r => v ≥ 2 ∨ dataS s = true → r = s)
    (motive_2 := fun d r => v ≥ 2 → r = d)
    (motive_3 := fun ms r => v ≥ 2 → r = ms)
    (motive_4 := fun l r => v ≥ 2 → r = l)
    (motive_5 := fun vs r => v ≥ 2 ∨ dataSV vs = true → r = vs)
    (motive_6 := fun fs r => v ≥ 2 ∨ dataSF fs = true → r = fs)
    ?struct ?enum ?enumOld ?primStr ?prim ?vector ?array ?option ?boxed ?slice ?reference ?trait ?fnClosure ?future
    ?other ?fieldsNil ?fieldsCons ?variantsNil ?variantsCons ?defn ?methodsNil ?methodsCons ?listNil ?listCons
  case struct =>
    intro _ _ _ fs ih h
    rw [ih h, if_pos hv0, if_pos hv0]
  case enum =>
    intro _ vs _ _ _ _ _ ih h
    rw [ih h]
  case enumOld =>
    intro _ _ _ _ _ _ hn
    exact absurd hv0 hn
  case primStr =>
    intro l _
    rw [if_pos hv0]
  case prim | other | fieldsNil | variantsNil | methodsNil | listNil =>
    intros
    rfl
  case vector =>
    intro t l ih h
    rw [ih h, if_pos hv0]
  case array =>
    intro t n ih h
    rw [ih h]
  case option | boxed | slice | reference =>
    intro t ih h
    rw [ih h]
  case trait | fnClosure =>
    intro m d ih h
    rw [ih (h.resolve_right Bool.false_ne_true)]
  case future =>
    intro d a b c ih h
    rw [ih (h.resolve_right Bool.false_ne_true)]
  case fieldsCons =>
    intro _ t _ rest iht ihr h
    rw [iht (h.imp_right fun h => (Bool.and_eq_true_iff.mp h).1),
      ihr (h.imp_right fun h => (Bool.and_eq_true_iff.mp h).2), if_pos hv0]
  case variantsCons =>
    intro _ _ fs rest ihf ihr h
    rw [ihf (h.imp_right fun h => (Bool.and_eq_true_iff.mp h).1),
      ihr (h.imp_right fun h => (Bool.and_eq_true_iff.mp h).2)]
  case defn =>
    intro _ ms _ _ ih h
    rw [ih h]
  case methodsCons =>
    intro _ ret _ _ args rest ihret iha ihr h
    rw [ihret (.inl h), iha h, ihr h, if_pos h, if_pos h]
  case listCons =>
    intro s rest ihs ihr h
    rw [ihs (.inl h), ihr h]

theorem normS_ge2 (v : Nat) (hv : v ≥ 2) : ∀ (s : Schema), normS v s = s :=
  fun s => (norm_id v (Nat.le_of_succ_le hv)).1 s (.inl hv)

theorem normSF_ge2 (v : Nat) (hv : v ≥ 2) : ∀ (fs : SFieldL), normSF v fs = fs :=
  fun fs => (norm_id v (Nat.le_of_succ_le hv)).2.2.2.2.2 fs (.inl hv)

theorem normSV_ge2 (v : Nat) (hv : v ≥ 2) : ∀ (vs : SVariantL), normSV v vs = vs :=
  fun vs => (norm_id v (Nat.le_of_succ_le hv)).2.2.2.2.1 vs (.inl hv)

theorem normD_ge2 (v : Nat) (hv : v ≥ 2) : ∀ (d : TraitDef), normD v d = d :=
  fun d => (norm_id v (Nat.le_of_succ_le hv)).2.1 d hv

theorem normM_ge2 (v : Nat) (hv : v ≥ 2) : ∀ (ms : MethodL), normM v ms = ms :=
  fun ms => (norm_id v (Nat.le_of_succ_le hv)).2.2.1 ms hv

theorem normSL_ge2 (v : Nat) (hv : v ≥ 2) : ∀ (l : SchemaL), normSL v l = l :=
  fun l => (norm_id v (Nat.le_of_succ_le hv)).2.2.2.1 l hv

theorem normS_ge1_data (v : Nat) (hv : v ≥ 1) : ∀ (s : Schema), dataS s = true → normS v s = s :=
  fun s h => (norm_id v hv).1 s (.inr h)

theorem normSF_ge1_data (v : Nat) (hv : v ≥ 1) : ∀ (fs : SFieldL), dataSF fs = true → normSF v fs = fs :=
  fun fs h => (norm_id v hv).2.2.2.2.2 fs (.inr h)

theorem normSV_ge1_data (v : Nat) (hv : v ≥ 1) : ∀ (vs : SVariantL), dataSV vs = true → normSV v vs = vs :=
  fun vs h => (norm_id v hv).2.2.2.2.1 vs (.inr h)

/-! ### fuel: the encoding is at least as long as the schema is big -/

theorem encStr_len (b : Bytes) : (encStr b).length = 8 + b.length := by
  simp [encStr, leBytes_length]

/- By induction along the writer: every node writes its tag byte and its parts.  A list of schemas is charged one
   unit for its longest member only, and every member writes at least its tag. -/
theorem size_le_enc (v : Nat) :
    (∀ s, sizeS s ≤ (encSchema v s).length)
    ∧ (∀ d, sizeD d ≤ (encDef v d).length)
    ∧ (∀ ms, sizeM ms ≤ (encMethods v ms).length)
    ∧ (∀ l, sizeSL l ≤ (encSchemaL v l).length + 1)
    ∧ (∀ vs, sizeSV vs ≤ (encVariants v vs).length)
    ∧ (∀ fs, sizeSF fs ≤ (encFields v fs).length) := by
  refine encSchema.mutual_induct_unfolding v
    (motive_1 := fun s bs => sizeS s ≤ bs.length)
    (motive_2 := fun d bs => sizeD d ≤ bs.length)
    (motive_3 := fun ms bs => sizeM ms ≤ bs.length)
    (motive_4 := fun l bs => sizeSL l ≤ bs.length + 1)
    (motive_5 := fun vs bs => sizeSV vs ≤ bs.length)
    (motive_6 := fun fs bs => sizeSF fs ≤ bs.length)
    ?struct ?enum ?prim ?vector ?undefined ?zeroSize ?option ?array ?custom ?boxed ?fnClosure ?slice ?str ?reference
    ?trait ?recursion ?stdIoError ?future ?uninitSlice ?utcTimestamp ?fieldsNil ?fieldsCons ?variantsNil
    ?variantsCons ?defn ?methodsNil ?methodsCons ?listNil ?listCons
  case struct =>
    intro _ _ _ fs ih
    show 1 + sizeSF fs ≤ _
    simp only [List.length_cons, List.length_append]
    omega
  case enum =>
    intro _ vs _ _ _ _ ih
    show 1 + sizeSV vs ≤ _
    simp only [List.length_cons, List.length_append]
    omega
  case prim | custom | recursion =>
    intro _
    exact Nat.le_add_left 1 _
  case vector | array =>
    intro t _ ih
    show 1 + sizeS t ≤ _
    simp only [List.length_cons, List.length_append]
    omega
  case undefined | zeroSize | str | stdIoError | uninitSlice | utcTimestamp => exact Nat.le_refl 1
  case option | boxed | slice | reference =>
    intro t ih
    show 1 + sizeS t ≤ _
    simp only [List.length_cons]
    omega
  case fnClosure | trait =>
    intro _ d ih
    show 1 + sizeD d ≤ _
    simp only [List.length_cons, List.length_append]
    omega
  case future =>
    intro d _ _ _ ih
    show 1 + sizeD d ≤ _
    simp only [List.length_cons]
    omega
  case fieldsNil | variantsNil | methodsNil => exact Nat.le_refl 0
  case fieldsCons =>
    intro name t _ rest iht ihr
    show 1 + sizeS t + sizeSF rest ≤ _
    simp only [List.length_append, encStr_len]
    omega
  case variantsCons =>
    intro name _ fs rest ihf ihr
    show 1 + sizeSF fs + sizeSV rest ≤ _
    simp only [List.length_append, encStr_len]
    omega
  case defn =>
    intro name ms _ _ ih
    show 1 + sizeM ms ≤ _
    simp only [List.length_append, encStr_len]
    omega
  case methodsCons =>
    intro name ret _ _ args rest ihret iha ihr
    show 1 + sizeS ret + sizeSL args + sizeM rest ≤ _
    simp only [List.length_append, encStr_len, leBytes_length]
    omega
  case listNil => exact Nat.zero_le _
  case listCons =>
    intro s rest ihs ihr
    show 1 + max (sizeS s) (sizeSL rest) ≤ _
    have := sizeS_pos s
    simp only [List.length_append]
    omega

theorem sizeS_le_enc (v : Nat) : ∀ (s : Schema), sizeS s ≤ (encSchema v s).length :=
  (size_le_enc v).1

theorem sizeSF_le_enc (v : Nat) : ∀ (fs : SFieldL), sizeSF fs ≤ (encFields v fs).length :=
  (size_le_enc v).2.2.2.2.2

theorem sizeSV_le_enc (v : Nat) : ∀ (vs : SVariantL), sizeSV vs ≤ (encVariants v vs).length :=
  (size_le_enc v).2.2.2.2.1

theorem sizeD_le_enc (v : Nat) : ∀ (d : TraitDef), sizeD d ≤ (encDef v d).length :=
  (size_le_enc v).2.1

theorem sizeM_le_enc (v : Nat) : ∀ (ms : MethodL), sizeM ms ≤ (encMethods v ms).length :=
  (size_le_enc v).2.2.1

theorem sizeSL_le_enc (v : Nat) : ∀ (l : SchemaL), sizeSL l ≤ (encSchemaL v l).length + 1 :=
  (size_le_enc v).2.2.2.1

/-- reading with the fuel the loader uses (`length + 1`) -/
theorem schema_rt_len (cfg : Cfg) (v : Nat) (s : Schema) (r : Bytes) (hw : wfS cfg s = true) :
    decSchema cfg v ((encSchema v s ++ r).length + 1) (encSchema v s ++ r) = .ok (normS v s, r) := by
  apply schema_rt cfg v s _ r hw
  have := sizeS_le_enc v s
  simp; omega

end Sfv
