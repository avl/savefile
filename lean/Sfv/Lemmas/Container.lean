import Sfv.Model.Container
import Sfv.Lemmas.Mono
namespace Sfv

/-- the header check after a correct magic and the two bytes of a library format version -/
theorem decHeader_lib (memVer lib : Nat) (rest : Bytes) (hl16 : lib < 256 ^ 2) :
    decHeader memVer (magic ++ leBytes 2 lib ++ rest) =
      if lib > currentLibVersion then .error .futureLib else
      match takeN 4 rest with
      | none => .error .eof
      | some (v, r3) =>
        if ofLE v > memVer then .error .wrongVersion else
        match r3 with
        | [] => .error .eof
        | c :: r4 => .ok ({ lib := lib, ver := ofLE v, compressed := c ≠ 0 }, r4) := by
  unfold decHeader
  rw [List.append_assoc, takeN_append 9 magic _ rfl]
  dsimp only
  rw [if_neg (fun h => h rfl), takeN_append 2 _ _ (leBytes_length 2 lib)]
  dsimp only
  rw [ofLE_leBytes 2 lib hl16]
  rfl

theorem decHeader_encHeader (h : Header) (memVer : Nat) (r : Bytes)
    (hl : h.lib ≤ currentLibVersion) (hv : h.ver ≤ memVer) (hv32 : h.ver < 2^32) :
    decHeader memVer (encHeader h ++ r) = .ok (h, r) := by
  have hlib : h.lib < 256 ^ 2 := Nat.lt_of_le_of_lt hl (by decide)
  unfold encHeader
  have hver : h.ver < 256 ^ 4 := hv32
  rw [List.append_assoc, List.append_assoc, decHeader_lib memVer h.lib _ hlib, if_neg (Nat.not_lt.mpr hl),
    takeN_append 4 _ _ (leBytes_length 4 h.ver)]
  simp only [ofLE_leBytes 4 h.ver hver, if_neg (Nat.not_lt.mpr hv)]
  cases h with
  | mk lib ver c => cases c <;> rfl

theorem decHeader_mono (memVer : Nat) (p s : Bytes) (x : Header) (r : Bytes)
    (h : decHeader memVer p = .ok (x, r)) : decHeader memVer (p ++ s) = .ok (x, r ++ s) := by
  unfold decHeader at h ⊢
  read_step takeN_mono s
  obtain ⟨hm, h⟩ := ok_of_ite h nofun
  rw [if_neg hm]
  read_step takeN_mono s
  obtain ⟨hl, h⟩ := ok_of_ite h nofun
  simp only [if_neg hl]
  read_step takeN_mono s
  obtain ⟨hv, h⟩ := ok_of_ite h nofun
  simp only [if_neg hv]
  cases _r with
  | nil => cases h
  | cons c r4 => cases h; rfl

theorem load_mono (cfg : Cfg) (env : UserFns) (T : Ty) (v : Nat) (p s : Bytes) (x : V) (r : Bytes)
    (h : load cfg env T v p = .ok (x, r)) : load cfg env T v (p ++ s) = .ok (x, r ++ s) := by
  unfold load at h ⊢
  read_step dec_mono cfg s (wireOf T v) false _ _ _
  cases h; rfl

/-- the loader's result does not depend on what follows the bytes it consumed, provided the schema
    section reader has the same property -/
theorem loadFile_mono {S} (cfg : Cfg) (env : UserFns) (sc : SchemaCodec S) (expected : Option (Nat → S))
    (T : Ty) (memVer : Nat) (p s : Bytes) (x : V) (r : Bytes)
    (hsc : ∀ lib bs sch r', sc.decS lib bs = .ok (sch, r') → sc.decS lib (bs ++ s) = .ok (sch, r' ++ s))
    (h : loadFile cfg env sc expected T memVer p = .ok (x, r)) :
    loadFile cfg env sc expected T memVer (p ++ s) = .ok (x, r ++ s) := by
  unfold loadFile at h ⊢
  read_step decHeader_mono memVer _ s _ _
  obtain ⟨hc, h⟩ := ok_of_ite h nofun
  rw [if_neg hc]
  cases expected with
  | none =>
    simp only at h ⊢
    read_step load_mono cfg env T _ _ s _ _
    cases h; rfl
  | some exp =>
    simp only at h ⊢
    read_step hsc _ _ _ _
    split at h
    · next hcomp =>
      rw [if_pos hcomp]
      read_step load_mono cfg env T _ _ s _ _
      cases h; rfl
    · cases h

end Sfv
