import Sfv.Lemmas.Wire
namespace Sfv

/- Round trip with remainder: decoding what `enc` produced, followed by anything, yields the value and leaves
   exactly the remainder, in both the checked (`u = false`) and the in-place (bulk, `u = true`) mode.
   By rule induction on the encoding, for `enc`, `encAlt`, `encProd` and `encAll` together. -/
theorem rt_all (cfg : Cfg) :
    (∀ w v bs, enc w v = some bs → wfW w = true → lim cfg w v = true →
      ∀ u r, dec cfg u w (bs ++ r) = .ok (v, r))
    ∧ (∀ alts i v bs, encAlt alts i v = some bs → wfWL alts = true → limAlt cfg alts i v = true →
      ∀ u r, decAlt cfg u alts i (bs ++ r) = .ok (v, r))
    ∧ (∀ ts l bs, encProd ts l = some bs → wfWL ts = true → limProd cfg ts l = true →
      ∀ u r, decProd cfg u ts (bs ++ r) = .ok (l, r))
    ∧ (∀ t l bs, encAll t l = some bs → wfW t = true → limAll cfg t l = true →
      ∀ u r, repeatDec (dec cfg u t) l.length (bs ++ r) = .ok (l, r)) :=
  enc_induct
    (fixed := fun k n hn _ _ u r => by simp only [dec, readLE_leBytes k n r hn])
    (bool := fun n hn _ _ u r => by
      have : n = 0 ∨ n = 1 := by omega
      cases u <;> rcases this with rfl | rfl <;> rfl)
    (char := fun n hn _ _ u r => by simp only [dec, readLE_leBytes 4 n r (validChar_lt hn), hn, if_true])
    (str := fun cap b hv hlen hcap _ hl u r => by
      rw [lim] at hl
      simp only [dec, List.append_assoc, readLE8_leBytes _ _ hlen, hcap, sane_of_limit hl, takeN_append _ _ _ rfl, hv]
      simp)
    (seq := fun m t l bs hlen hcap henc ih hw hl u r => by
      simp only [wfW, Bool.and_eq_true] at hw
      simp only [lim, Bool.and_eq_true] at hl
      simp only [dec, List.append_assoc, readLE8_leBytes _ _ hlen, hcap]
      cases hb : m.bulk with
      | none =>
        simp only [hb] at hl
        simp [sane_of_limit hl.2, ih hw.1 hl.1 u r]
      | some p =>
        obtain ⟨esz, al⟩ := p
        simp only [hb, Bool.and_eq_true, beq_iff_eq, decide_eq_true_eq, Bool.or_eq_true] at hl hw
        have hsz := encAll_size t l bs esz henc hw.2.1
        cases l with
        | nil => simp only [encAll, Option.some.injEq] at henc; subst henc; simp [VL.length]
        | cons x xs =>
          have hz : (VL.cons x xs).length ≠ 0 := by simp [VL.length]
          have hfit : ¬ (bs.length + r.length < esz * (VL.cons x xs).length) :=
            Nat.not_lt.2 (hsz ▸ Nat.le_add_right ..)
          rcases hl.2 with hl2 | hl2
          · have hA : ¬ (esz * (VL.cons x xs).length ≥ 2^64) :=
              Nat.not_le.2 (Nat.lt_of_le_of_lt (Nat.le_trans hl2 (Nat.sub_le ..)) (by decide))
            have hB : ¬ (esz * (VL.cons x xs).length > 2^63 - al) := Nat.not_lt.2 hl2
            simp [hz, hA, hB, hfit, ih hw.1 hl.1 true r]
          · have hne : m.cap ≠ none := by intro hc; simp [hc] at hl2
            simp [hz, hne, hfit, ih hw.1 hl.1 true r])
    (optNone := fun t _ _ u r => rfl)
    (optSome := fun t v bs _ ih hw hl u r => by
      simp only [lim] at hl
      simp [dec, readLE1_cons, ih hw hl u r])
    (resOk := fun a b v bs _ ih hw hl u r => by
      simp only [wfW, Bool.and_eq_true] at hw; simp only [lim] at hl
      simp [dec, readLE1_cons, ih hw.1 hl u r])
    (resErr := fun a b v bs _ ih hw hl u r => by
      simp only [wfW, Bool.and_eq_true] at hw; simp only [lim] at hl
      simp [dec, readLE1_cons, ih hw.2 hl u r])
    (prod := fun ts l bs _ ih hw hl u r => by
      simp only [lim] at hl
      simp only [dec, ih hw hl u r])
    (rep := fun bulk t l bs henc ih hw hl u r => by
      simp only [wfW, Bool.and_eq_true] at hw; simp only [lim] at hl
      cases bulk with
      | none => simp only [dec, ih hw.1 hl u r]
      | some esz =>
        have hsz := encAll_size t l bs esz henc (by simpa using hw.2)
        have hfit : ¬ (bs.length + r.length < esz * l.length) := Nat.not_lt.2 (hsz ▸ Nat.le_add_right ..)
        simp [dec, hfit, ih hw.1 hl true r])
    (tagged := fun w alts i v bs hi _ ih hw hl u r => by
      simp only [lim] at hl
      simp only [dec, List.append_assoc, readLE_leBytes w i _ hi, ih hw hl u r])
    (canary := fun _ _ u r => by
      simp [dec, readLE_leBytes 4 _ r (by decide : canaryMagic < 256 ^ 4)])
    (sysTime := fun n hn hc _ _ u r => by simp only [dec, readLE_leBytes 16 n r hn, hc])
    (altHere := fun t ts v bs _ ih hw hl u r => by
      simp only [wfWL, Bool.and_eq_true] at hw; simp only [limAlt] at hl
      simp only [decAlt, ih hw.1 hl u r])
    (altNext := fun t ts i v bs _ ih hw hl u r => by
      simp only [wfWL, Bool.and_eq_true] at hw; simp only [limAlt] at hl
      simp only [decAlt, ih hw.2 hl u r])
    (prodNil := fun _ _ u r => rfl)
    (prodCons := fun t ts v vs a b _ _ ih1 ih2 hw hl u r => by
      simp only [wfWL, Bool.and_eq_true] at hw; simp only [limProd, Bool.and_eq_true] at hl
      simp only [decProd, List.append_assoc, ih1 hw.1 hl.1 u (b ++ r), ih2 hw.2 hl.2 u r])
    (allNil := fun t _ _ u r => rfl)
    (allCons := fun t v vs a b _ _ ih1 ih2 hw hl u r => by
      simp only [limAll, Bool.and_eq_true] at hl
      simp only [repeatDec, VL.length, List.append_assoc, ih1 hw hl.1 u (b ++ r), ih2 hw hl.2 u r])


theorem rt (cfg : Cfg) : ∀ (w : W) (v : V) (u : Bool) (bs r : Bytes),
    enc w v = some bs → wfW w = true → lim cfg w v = true → dec cfg u w (bs ++ r) = .ok (v, r) :=
  fun w v u bs r h hw hl => (rt_all cfg).1 w v bs h hw hl u r

theorem rtAll (cfg : Cfg) : ∀ (t : W) (l : VL) (u : Bool) (bs r : Bytes),
    encAll t l = some bs → wfW t = true → limAll cfg t l = true →
    repeatDec (dec cfg u t) l.length (bs ++ r) = .ok (l, r) :=
  fun t l u bs r h hw hl => (rt_all cfg).2.2.2 t l bs h hw hl u r

theorem rtProd (cfg : Cfg) : ∀ (ts : WL) (l : VL) (u : Bool) (bs r : Bytes),
    encProd ts l = some bs → wfWL ts = true → limProd cfg ts l = true →
    decProd cfg u ts (bs ++ r) = .ok (l, r) :=
  fun ts l u bs r h hw hl => (rt_all cfg).2.2.1 ts l bs h hw hl u r

theorem rtAlt (cfg : Cfg) : ∀ (alts : WL) (i : Nat) (v : V) (u : Bool) (bs r : Bytes),
    encAlt alts i v = some bs → wfWL alts = true → limAlt cfg alts i v = true →
    decAlt cfg u alts i (bs ++ r) = .ok (v, r) :=
  fun alts i v u bs r h hw hl => (rt_all cfg).2.1 alts i v bs h hw hl u r

end Sfv
