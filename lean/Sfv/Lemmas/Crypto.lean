/-
  Sfv.Lemmas.Crypto — the encrypted stream: round trip, and what tampering does.

  The frame parser is used through two facts: `decFrames_frame` (on a complete frame it goes on behind it) and
  `decFrames_inv` (plaintext comes only from a complete frame that opens).  On them rests `decFrames_damaged`:
  under `Ideal`, whatever the stored frames are, those that authenticate are the written ones, in order, up to
  the first difference.  A changed byte or a cut is damage in this sense (`Tampered.not_prefix`); only a hit on
  the stored nonce needs an argument of its own (`decFrames_other_nonce`).
  What a `CryptoWriter` emits is proved for write/flush programs (`CW.runProg_spec`, `CW.chunksProg_spec`); a plain
  sequence of writes is a program without flushes (`CW.run_eq_runProg`, `CW.chunksProg_writes`).
-/
import Sfv.Model.Crypto
import Sfv.Lemmas.Bytes
namespace Sfv

theorem Tampered.ne {a a' : Bytes} (h : Tampered a a') : a' ≠ a := by
  rcases h with ⟨t, ht, rfl⟩ | ⟨pos, v, hp, hv, rfl⟩
  · exact fun e => Nat.ne_of_lt ht ((List.length_take_of_le (Nat.le_of_lt ht)).symm.trans (congrArg List.length e))
  · exact fun e => hv (Option.some.inj <|
      (List.getElem?_set_self hp).symm.trans ((congrArg (·[pos]?) e).trans (List.getElem?_eq_getElem hp)))

theorem Tampered.length_le {a a' : Bytes} (h : Tampered a a') : a'.length ≤ a.length := by
  rcases h with ⟨t, ht, rfl⟩ | ⟨pos, v, hp, hv, rfl⟩
  · exact List.length_take_le' t a
  · exact Nat.le_of_eq List.length_set

theorem Tampered.not_prefix {a a' : Bytes} (h : Tampered a a') : ¬ a <+: a' :=
  fun hp => h.ne (hp.eq_of_length (Nat.le_antisymm hp.length_le h.length_le)).symm

/-- a tampering of `a ++ b` hits `a` (and either cuts the data there or leaves `b` in place behind a
    same-length `a'`) or leaves `a` alone and hits `b` -/
theorem Tampered.append {a b d : Bytes} (h : Tampered (a ++ b) d) :
    (∃ a', Tampered a a' ∧ ((d = a' ∧ a'.length < a.length) ∨ (d = a' ++ b ∧ a'.length = a.length)))
    ∨ (∃ b', Tampered b b' ∧ d = a ++ b') := by
  rcases h with ⟨t, ht, rfl⟩ | ⟨pos, v, hp, hv, rfl⟩
  · -- the data is cut at `t`
    by_cases hlt : t < a.length
    · -- inside `a`: left disjunct with `a' = a.take t`, and `b` is gone
      have hle := Nat.le_of_lt hlt
      exact .inl ⟨a.take t,
        .inl ⟨t, hlt, rfl⟩,                                   -- `Tampered a (a.take t)`: a cut
        .inl ⟨List.take_append_of_le_length hle,              -- `(a ++ b).take t = a.take t`
          (List.length_take_of_le hle).symm ▸ hlt⟩⟩           -- `(a.take t).length < a.length`
    · -- inside `b`: right disjunct with `b' = b.take (t - a.length)`
      have hge := Nat.le_of_not_lt hlt
      refine .inr ⟨b.take (t - a.length), .inl ⟨t - a.length, ?_, rfl⟩, ?_⟩
      · exact Nat.sub_lt_left_of_lt_add hge (List.length_append ▸ ht)   -- `t - a.length < b.length`
      · rw [List.take_append, List.take_of_length_le hge]               -- `(a ++ b).take t = a ++ b'`
  · -- the byte at `pos` is replaced by `v`
    by_cases hlt : pos < a.length
    · -- in `a`: left disjunct with `a' = a.set pos v`, of the same length, and `b` stays behind it
      rw [List.getElem_append_left hlt] at hv                 -- now `hv : v ≠ a[pos]`
      exact .inl ⟨a.set pos v,
        .inr ⟨pos, v, hlt, hv, rfl⟩,                          -- `Tampered a (a.set pos v)`: a replaced byte
        .inr ⟨List.set_append_left _ _ hlt,                   -- `(a ++ b).set pos v = a.set pos v ++ b`
          List.length_set⟩⟩
    · -- in `b`: right disjunct with `b' = b.set (pos - a.length) v`
      have hge := Nat.le_of_not_lt hlt
      rw [List.getElem_append_right hge] at hv                -- now `hv : v ≠ b[pos - a.length]`
      exact .inr ⟨b.set (pos - a.length) v,
        .inr ⟨pos - a.length, v,
          Nat.sub_lt_left_of_lt_add hge (List.length_append ▸ hp),      -- `pos - a.length < b.length`
          hv, rfl⟩,
        List.set_append_right _ _ hge⟩                        -- `(a ++ b).set pos v = a ++ b'`

/-- `Ideal.sealed` for an entry whose ciphertext is written as the seal it is -/
theorem Ideal.sealF_spec {A : Aead} {prod} (hI : Ideal A prod) {nv : Nat × Nat} {c : Bytes}
    (h : (nv, c, A.sealF nv c) ∈ prod) : A.openF nv (A.sealF nv c) = some c ∧ (A.sealF nv c).length = c.length + tagLen :=
  (hI.sealed _ h).2

/-- the frame parser on data that starts with a complete frame of admissible length -/
theorem decFrames_frame (A : Aead) (f : Nat) (n : NonceSeq) (ct x : Bytes) (h : ct.length ≤ cryptoBuf + tagLen) :
    decFrames A (f + 1) n (leBytes 8 ct.length ++ (ct ++ x))
      = frameCont (A.openF n.advance.val ct) (decFrames A f n.advance x) := by
  have h8 := leBytes_length 8 ct.length
  have hne : leBytes 8 ct.length ++ (ct ++ x) ≠ [] := fun e => by simpa [h8] using congrArg List.length e
  rw [decFrames, if_neg hne, if_neg (by rw [List.length_append, h8]; omega), List.take_left' h8, List.drop_left' h8,
    ofLE_leBytes 8 _ (Nat.lt_of_le_of_lt h (by decide)), if_neg (Nat.not_lt.mpr h),
    if_neg (by rw [List.length_append]; omega), List.take_left, List.drop_left]

/-- the frame parser yields plaintext only from data that starts with such a frame, and the frame opens -/
theorem decFrames_inv (A : Aead) (fuel : Nat) (n : NonceSeq) (d : Bytes) :
    (decFrames A fuel n d).1 = [] ∨ ∃ f ct x p, fuel = f + 1 ∧ d = leBytes 8 ct.length ++ (ct ++ x)
      ∧ ct.length ≤ cryptoBuf + tagLen ∧ A.openF n.advance.val ct = some p := by
  fun_cases decFrames A fuel n d with
  | case1 | case2 | case3 | case4 | case5 => exact .inl rfl
  | case6 f n d _ h8 len hbig hshort =>
    cases hopen : A.openF n.advance.val ((d.drop 8).take len) with
    | none => exact .inl rfl
    | some p =>
      have hct : ((d.drop 8).take len).length = len := List.length_take_of_le (Nat.le_of_not_lt hshort)
      have hhd : leBytes 8 len = d.take 8 := by
        have := leBytes_ofLE (d.take 8)
        rwa [List.length_take_of_le (Nat.le_of_not_lt h8)] at this
      refine .inr ⟨f, _, (d.drop 8).drop len, p, rfl, ?_, Nat.le_trans (Nat.le_of_eq hct) (Nat.le_of_not_lt hbig), hopen⟩
      rw [hct, hhd, List.take_append_drop, List.take_append_drop]

theorem length_le_framesBytes (A : Aead) (chunks : List Bytes) (n : NonceSeq) :
    chunks.length ≤ (framesBytes A n chunks).length := by
  induction chunks generalizing n with
  | nil => exact Nat.le_refl 0
  | cons c cs ih =>
    have := ih n.advance
    simp only [framesBytes, List.length_append, List.length_cons, leBytes_length]
    omega

theorem decFrames_framesBytes (A : Aead) (prod) (hI : Ideal A prod) (chunks : List Bytes) (n : NonceSeq) (fuel : Nat)
    (hp : ∀ e ∈ produced A n chunks, e ∈ prod) (hc : ∀ c ∈ chunks, c.length ≤ cryptoBuf)
    (hf : chunks.length < fuel) :
    decFrames A fuel n (framesBytes A n chunks) = (chunks.flatten, .clean) := by
  induction chunks generalizing n fuel with
  | nil => cases fuel with
    | zero => cases hf
    | succ f => rfl
  | cons c cs ih =>
    obtain ⟨f, rfl⟩ := Nat.exists_eq_add_one_of_ne_zero (Nat.ne_of_gt (Nat.zero_lt_of_lt hf))
    obtain ⟨ho, hl⟩ := hI.sealF_spec (hp _ List.mem_cons_self)
    rw [framesBytes, List.append_assoc, ← hl,
      decFrames_frame A f n _ _ (hl ▸ Nat.add_le_add_right (hc c List.mem_cons_self) tagLen), ho, frameCont,
      ih n.advance f (fun e he => hp e (List.mem_cons_of_mem _ he)) (fun c' hc' => hc c' (List.mem_cons_of_mem _ hc'))
        (Nat.lt_of_succ_lt_succ hf)]
    rfl

/-- Whatever the stored frames are: unless the frames written for `chunks` are all there in front, what
    authenticates is the plaintext of fewer frames than were written.  A frame opens only if it is the one sealed
    under the nonce the parser has reached (`Ideal.int`, `Ideal.nonce_once`), so the frames that open are the
    written ones, in order, up to the first difference. -/
theorem decFrames_damaged (A : Aead) (prod) (hI : Ideal A prod) (chunks : List Bytes) (n : NonceSeq) (fuel : Nat) (d : Bytes)
    (hp : ∀ e ∈ produced A n chunks, e ∈ prod) (hnp : ¬ (framesBytes A n chunks <+: d)) :
    ∃ j, j < chunks.length ∧ (decFrames A fuel n d).1 = (chunks.take j).flatten := by
  induction chunks generalizing n fuel d with
  | nil => exact absurd List.nil_prefix hnp
  | cons c cs ih =>
    rcases decFrames_inv A fuel n d with h0 | ⟨f, ct, x, p, rfl, rfl, hle, hopen⟩
    · exact ⟨0, Nat.succ_pos _, h0⟩
    · have hmem : (n.advance.val, c, A.sealF n.advance.val c) ∈ prod := hp _ List.mem_cons_self
      cases hI.nonce_once _ (hI.int _ _ _ hopen) _ hmem rfl
      obtain ⟨j, hj, hj'⟩ := ih n.advance f x (fun e he => hp e (List.mem_cons_of_mem _ he)) fun hpre => hnp (by
        rw [framesBytes, List.append_assoc, ← (hI.sealF_spec hmem).2]
        exact (List.prefix_append_right_inj _).mpr ((List.prefix_append_right_inj _).mpr hpre))
      exact ⟨j + 1, Nat.succ_lt_succ hj, by rw [decFrames_frame A f n _ x hle, hopen, frameCont, hj']; rfl⟩

/-- Tampering with the frames of an encrypted stream: what still authenticates is the plaintext of the
    frames before the one that was hit — at least one frame's worth is missing.  (The case of one changed byte or a
    cut of `decFrames_damaged`; the hypotheses on chunk sizes and fuel are not needed.) -/
theorem decFrames_tampered (A : Aead) (prod) (hI : Ideal A prod) : ∀ (chunks : List Bytes) (n : NonceSeq) (fuel : Nat) (d : Bytes),
    (∀ e ∈ produced A n chunks, e ∈ prod) → (∀ c ∈ chunks, c ≠ [] ∧ c.length ≤ cryptoBuf) →
    fuel > d.length → Tampered (framesBytes A n chunks) d →
    ∃ j, j < chunks.length ∧ (decFrames A fuel n d).1 = (chunks.take j).flatten :=
  fun chunks n fuel d hp _ _ ht => decFrames_damaged A prod hI chunks n fuel d hp ht.not_prefix

/-- a first frame sealed under one nonce does not open under another (`Ideal.ct_once`) -/
theorem decFrames_other_nonce (A : Aead) (prod) (hI : Ideal A prod) (n n' : NonceSeq) (c : Bytes) (cs : List Bytes)
    (hne : n'.advance.val ≠ n.advance.val) (hmem : (n.advance.val, c, A.sealF n.advance.val c) ∈ prod)
    (hc : c.length ≤ cryptoBuf) (fuel : Nat) : (decFrames A fuel n' (framesBytes A n (c :: cs))).1 = [] := by
  cases fuel with
  | zero => rfl
  | succ f =>
    have hl := (hI.sealF_spec hmem).2
    rw [framesBytes, List.append_assoc, ← hl, decFrames_frame A f n' _ _ (hl ▸ Nat.add_le_add_right hc tagLen)]
    cases hopen : A.openF n'.advance.val (A.sealF n.advance.val c) with
    | none => rfl
    | some p => exact absurd (congrArg Prod.fst (hI.ct_once _ (hI.int _ _ _ hopen) _ hmem rfl)) hne

theorem NonceSeq.advance_wf (s : NonceSeq) (h : s.wf) : s.advance.wf := by
  unfold NonceSeq.advance NonceSeq.wf at *
  simp only
  constructor
  · split
    · exact Nat.mod_lt _ (by decide)
    · exact h.1
  · exact Nat.mod_lt _ (by decide)

theorem NonceSeq.cnt_lt (s : NonceSeq) (h : s.wf) : s.cnt < 2 ^ 96 := by
  unfold NonceSeq.wf at h
  unfold NonceSeq.cnt
  omega

theorem NonceSeq.advance_cnt (s : NonceSeq) (h : s.wf) : s.advance.cnt = (s.cnt + 1) % 2 ^ 96 := by
  obtain ⟨a, b⟩ := s
  unfold NonceSeq.wf at h
  simp only [NonceSeq.advance, NonceSeq.cnt] at h ⊢
  by_cases hc : b + 1 = 2 ^ 32
  · -- carry into the high word
    have e : a * 2 ^ 32 + b + 1 = (a + 1) * 2 ^ 32 := by omega
    rw [hc, Nat.mod_self, if_pos rfl, e, Nat.pow_add 2 64 32, Nat.mul_mod_mul_right, Nat.add_zero]
  · rw [Nat.mod_eq_of_lt (by omega), if_neg (Nat.succ_ne_zero b), Nat.mod_eq_of_lt (by omega), Nat.add_assoc]

theorem NonceSeq.cnt_inj (s s' : NonceSeq) (h : s.wf) (h' : s'.wf) (e : s.cnt = s'.cnt) : s = s' := by
  obtain ⟨a, b⟩ := s
  obtain ⟨a', b'⟩ := s'
  unfold NonceSeq.wf at h h'
  unfold NonceSeq.cnt at e
  simp only at h h' e
  simp only [NonceSeq.mk.injEq]
  omega

theorem NonceSeq.val_inj {s s' : NonceSeq} (e : s.val = s'.val) : s = s' := by
  cases s'; cases e; rfl

/-- the nonce identifies the state it was derived from: two streams with different stored nonces never
    use the same nonce for their first frame -/
theorem NonceSeq.advance_inj (s s' : NonceSeq) (h : s.wf) (h' : s'.wf) (e : s.advance.val = s'.advance.val) : s = s' := by
  have e' := congrArg NonceSeq.cnt (NonceSeq.val_inj e)
  rw [s.advance_cnt h, s'.advance_cnt h'] at e'
  have := s.cnt_lt h
  have := s'.cnt_lt h'
  exact NonceSeq.cnt_inj s s' h h' (by omega)

/-- the nonce of the `j`-th frame is the counter value `(n.cnt + j) % 2^96` -/
theorem produced_cnt (A : Aead) (chunks : List Bytes) (n : NonceSeq) (hn : n.wf) :
    ∀ e ∈ produced A n chunks, ∃ m : NonceSeq, e.1 = m.val ∧ ∃ j, 1 ≤ j ∧ j ≤ chunks.length ∧ m.cnt = (n.cnt + j) % 2 ^ 96 := by
  induction chunks generalizing n with
  | nil => nofun
  | cons c cs ih =>
    intro e he
    rcases List.mem_cons.mp he with rfl | he
    · exact ⟨n.advance, rfl, 1, Nat.le_refl 1, Nat.succ_pos _, n.advance_cnt hn⟩
    · obtain ⟨m, h1, j, hj1, hj2, hj3⟩ := ih n.advance (n.advance_wf hn) e he
      exact ⟨m, h1, j + 1, Nat.le_add_left 1 j, Nat.succ_le_succ hj2,
        by rw [hj3, n.advance_cnt hn, Nat.mod_add_mod, Nat.add_assoc, Nat.add_comm 1 j]⟩

theorem NonceSeq.bytes_length (s : NonceSeq) : s.bytes.length = 12 := by
  simp [NonceSeq.bytes, leBytes_length]


/-- `RandomNonceSequence::deserialize` reads two little-endian words and ignores what follows -/
theorem parsedNonce_append (a b x : Bytes) (ha : a.length = 8) (hb : b.length = 4) :
    parsedNonce (a ++ b ++ x) = ⟨ofLE a, ofLE b⟩ := by
  rw [parsedNonce, List.append_assoc, List.take_left' ha, List.drop_left' ha, List.take_left' hb]

theorem parsedNonce_enc (n0 : NonceSeq) (hn : n0.wf) (x : Bytes) : parsedNonce (n0.bytes ++ x) = n0 := by
  rw [NonceSeq.bytes, parsedNonce_append _ _ x (leBytes_length 8 _) (leBytes_length 4 _),
    ofLE_leBytes 8 _ (pow8 ▸ hn.1), ofLE_leBytes 4 _ (pow4 ▸ hn.2)]

theorem parsedNonce_bytes (nb x : Bytes) (h : nb.length = 12) : (parsedNonce (nb ++ x)).bytes = nb := by
  obtain ⟨a, b, rfl, ha, hb⟩ : ∃ a b, nb = a ++ b ∧ a.length = 8 ∧ b.length = 4 :=
    ⟨nb.take 8, nb.drop 8, (List.take_append_drop 8 nb).symm, List.length_take_of_le (h ▸ by decide),
      by rw [List.length_drop, h]⟩
  rw [parsedNonce_append a b x ha hb, NonceSeq.bytes]
  rw [← ha, leBytes_ofLE, ← hb, leBytes_ofLE]

theorem parsedNonce_wf (d : Bytes) : (parsedNonce d).wf :=
  ⟨-- `d1 = ofLE (d.take 8) < 256 ^ (d.take 8).length ≤ 256 ^ 8 = 2 ^ 64`
   pow8 ▸ Nat.lt_of_lt_of_le (ofLE_lt _) (Nat.pow_le_pow_right (by decide) (List.length_take_le 8 d)),
   -- `d2 = ofLE ((d.drop 8).take 4) < 256 ^ 4 = 2 ^ 32`, in the same way
   pow4 ▸ Nat.lt_of_lt_of_le (ofLE_lt _) (Nat.pow_le_pow_right (by decide) (List.length_take_le 4 _))⟩

/-- `CryptoReader::new` on data with a complete nonce header -/
theorem decStream_append (A : Aead) (nb x : Bytes) (h : nb.length = 12) :
    decStream A (nb ++ x) = decFrames A ((nb ++ x).length + 1) (parsedNonce (nb ++ x)) x := by
  rw [decStream, if_neg (by rw [List.length_append, h]; omega), List.drop_left' h]

theorem decStream_encStream (A : Aead) (prod) (hI : Ideal A prod) (n0 : NonceSeq) (hn : n0.wf) (chunks : List Bytes)
    (hp : ∀ e ∈ produced A n0 chunks, e ∈ prod) (hc : ∀ c ∈ chunks, c.length ≤ cryptoBuf) :
    decStream A (encStream A n0 chunks) = (chunks.flatten, .clean) := by
  rw [encStream, decStream_append A _ _ n0.bytes_length, parsedNonce_enc n0 hn]
  refine decFrames_framesBytes A prod hI chunks n0 _ hp hc (Nat.lt_succ_of_le ?_)
  exact Nat.le_trans (length_le_framesBytes A chunks n0) (List.length_append ▸ Nat.le_add_left ..)

/-- `decFrames_damaged` at stream level, when the stored nonce is the one the stream was written with: whatever else was done
    to the stored bytes (several bytes changed, frames exchanged, replayed or removed, data cut or inserted), unless
    the original frames are all still there in front, fewer frames than were written authenticate -/
theorem decStream_damaged (A : Aead) (prod) (hI : Ideal A prod) (n0 : NonceSeq) (hn : n0.wf) (chunks : List Bytes)
    (hp : ∀ e ∈ produced A n0 chunks, e ∈ prod) (x : Bytes) (hx : ¬ (framesBytes A n0 chunks <+: x)) :
    ∃ j, j < chunks.length ∧ (decStream A (n0.bytes ++ x)).1 = (chunks.take j).flatten := by
  rw [decStream_append A _ x n0.bytes_length, parsedNonce_enc n0 hn]
  exact decFrames_damaged A prod hI chunks n0 _ x hp hx

/-- nothing sealed under this key (another password): no frame opens -/
theorem decStream_wrong_key (A' : Aead) (hnone : ∀ nv c, A'.openF nv c = none) (A : Aead) (n0 : NonceSeq)
    (chunks : List Bytes) (hne : chunks ≠ []) (hc : ∀ c ∈ chunks, c.length ≤ cryptoBuf)
    (hseal : ∀ nv c, (A.sealF nv c).length = c.length + tagLen) :
    (decStream A' (encStream A n0 chunks)).1 = [] ∧ (decStream A' (encStream A n0 chunks)).2 ≠ .clean := by
  obtain ⟨c, cs, rfl⟩ := List.exists_cons_of_ne_nil hne
  have hl := hseal n0.advance.val c
  rw [encStream, decStream_append A' _ _ n0.bytes_length, framesBytes, List.append_assoc, ← hl,
    decFrames_frame A' _ _ _ _ (hl ▸ Nat.add_le_add_right (hc c List.mem_cons_self) tagLen), hnone]
  exact ⟨rfl, nofun⟩

theorem RP.runTerm_clean {α : Type} (p : RP α) (P : Bytes) : p.runTerm P .clean = (p.runWhole P).1 := by
  fun_induction RP.runWhole p P with
  | case1 | case2 => rfl
  | case3 n k P h ih => rw [RP.runTerm, if_pos h, ih]
  | case4 n k P h => rw [RP.runTerm, if_neg h]

/-- a reader program that consumed more than `P'.length` bytes of `P` cannot finish on the prefix `P'`,
    however the stream ends: it reports an I/O error -/
theorem RP.prefix_fails {α : Type} : ∀ (p : RP α) (P P' rest : Bytes) (t : Term) (a : α),
    p.runWhole P = (.val a, rest) → P'.length + rest.length < P.length → P' <+: P →
    ∃ e, p.runTerm P' t = .io e := by
  intro p P P' rest t a h hl hpre
  fun_induction RP.runWhole p P generalizing P' with
  | case1 a' P =>
    cases h
    exact absurd hl (Nat.not_lt.mpr (Nat.le_add_left _ _))
  | case2 e P => cases h
  | case3 n k P hge ih =>
    simp only [RP.runTerm]
    split
    · next hn =>
      obtain ⟨s, rfl⟩ := hpre
      rw [List.take_append_of_le_length hn, List.drop_append_of_le_length hn] at h ih
      refine ih (P'.drop n) h ?_ (List.prefix_append _ _)
      rw [List.length_append] at hl ⊢
      exact Nat.add_lt_add_left (Nat.lt_of_add_lt_add_left hl) _
    · cases t with
      | clean => exact ⟨_, rfl⟩
      | failed e => cases e <;> exact ⟨_, rfl⟩
  | case4 n k P hlt => cases h

/-- the same for the plaintext of the first `j` chunks: a loader that read beyond it fails on it -/
theorem RP.fails_on_fewer_chunks {α : Type} (p : RP α) (chunks : List Bytes) (j : Nat) (a : α) (rest : Bytes) (t : Term)
    (hload : p.runWhole chunks.flatten = (.val a, rest))
    (h : (chunks.take j).flatten.length + rest.length < chunks.flatten.length) :
    ∃ e, p.runTerm (chunks.take j).flatten t = .io e :=
  RP.prefix_fails p chunks.flatten _ rest t a hload h
    ⟨(chunks.drop j).flatten, by rw [← List.flatten_append, List.take_append_drop]⟩

theorem opsBytes_append : ∀ (a b : List WOp), opsBytes (a ++ b) = opsBytes a ++ opsBytes b
  | [], b => rfl
  | .w x :: a, b => by rw [List.cons_append, opsBytes, opsBytes, opsBytes_append a b, List.append_assoc]
  | .flush :: a, b => opsBytes_append a b

/-- the frames for `a ++ b`: what `frameOps` emits for `a`, then the frames for `b` from the nonce it has reached -/
theorem frameOps_append (A : Aead) (a b : List Bytes) (n : NonceSeq) :
    opsBytes (frameOps A n a).2 ++ framesBytes A (frameOps A n a).1 b = framesBytes A n (a ++ b) := by
  induction a generalizing n with
  | nil => rfl
  | cons c a ih =>
    rw [List.cons_append, framesBytes, ← ih n.advance]
    simp only [frameOps, opsBytes, List.append_assoc]

theorem frameOps_spec (A : Aead) (cs : List Bytes) (n : NonceSeq) :
    opsBytes (frameOps A n cs).2 = framesBytes A n cs := by
  have h := frameOps_append A cs [] n
  rwa [List.append_nil, framesBytes, List.append_nil] at h

theorem chunksOf_spec (fuel : Nat) (buf : Bytes) (h : fuel > buf.length) :
    (chunksOf fuel buf).flatten = buf ∧ ∀ c ∈ chunksOf fuel buf, c ≠ [] ∧ c.length ≤ cryptoBuf := by
  fun_induction chunksOf fuel buf with
  | case1 buf => cases h
  | case2 fuel => exact ⟨rfl, nofun⟩
  | case3 fuel buf hne ih =>
    have hlt : (buf.drop cryptoBuf).length < buf.length :=
      List.length_drop ▸ Nat.sub_lt (List.length_pos_iff.mpr hne) (by decide)
    obtain ⟨ih1, ih2⟩ := ih (Nat.lt_of_lt_of_le hlt (Nat.le_of_lt_succ h))
    refine ⟨by rw [List.flatten_cons, ih1, List.take_append_drop], fun c hc => ?_⟩
    rcases List.mem_cons.mp hc with rfl | hc
    · exact ⟨fun e => hne ((List.take_eq_nil_iff.mp e).resolve_left (by decide)), List.length_take_le ..⟩
    · exact ih2 c hc

/-- the chunks a `CryptoWriter` seals for a sequence of writes and the final flush -/
def CW.chunks : Bytes → List Bytes → List Bytes
  | buf, [] => chunksOf (buf.length + 1) buf
  | buf, b :: bs =>
    if (buf ++ b).length > cryptoBuf then chunksOf ((buf ++ b).length + 1) (buf ++ b) ++ CW.chunks [] bs
    else CW.chunks (buf ++ b) bs

/-- flushing `buf` in front of chunks `cs` that hold `w` -/
theorem chunksOf_append_spec (buf w : Bytes) (cs : List Bytes)
    (h : cs.flatten = w ∧ ∀ c ∈ cs, c ≠ [] ∧ c.length ≤ cryptoBuf) :
    (chunksOf (buf.length + 1) buf ++ cs).flatten = buf ++ w
      ∧ ∀ c ∈ chunksOf (buf.length + 1) buf ++ cs, c ≠ [] ∧ c.length ≤ cryptoBuf := by
  obtain ⟨h1, h2⟩ := chunksOf_spec _ buf (Nat.lt_succ_self _)
  exact ⟨by rw [List.flatten_append, h1, h.1], List.forall_mem_append.mpr ⟨h2, h.2⟩⟩

theorem CW.chunksProg_spec : ∀ (prog : List CWOp) (buf : Bytes),
    (CW.chunksProg buf prog).flatten = buf ++ CW.written prog ∧ ∀ c ∈ CW.chunksProg buf prog, c ≠ [] ∧ c.length ≤ cryptoBuf := by
  intro prog buf
  fun_induction CW.chunksProg buf prog with
  | case1 buf =>
    rw [CW.written, List.append_nil]
    exact chunksOf_spec _ buf (Nat.lt_succ_self _)
  | case2 buf b ops _ ih => exact List.append_assoc buf b _ ▸ chunksOf_append_spec (buf ++ b) _ _ ih
  | case3 buf b ops _ ih => exact List.append_assoc buf b _ ▸ ih
  | case4 buf ops ih => exact chunksOf_append_spec buf _ _ ih

theorem CW.runProg_spec (A : Aead) (prog : List CWOp) (s : CW) :
    opsBytes (CW.runProg A s prog) = framesBytes A s.nonce (CW.chunksProg s.buf prog) := by
  induction prog generalizing s with
  | nil => exact frameOps_spec A _ _
  | cons op ops ih =>
    -- a flush, explicit or because the buffer is full, then the rest of the program
    have fl (s : CW) : opsBytes ((s.flush A).2 ++ CW.runProg A (s.flush A).1 ops)
        = framesBytes A s.nonce (chunksOf (s.buf.length + 1) s.buf ++ CW.chunksProg [] ops) := by
      rw [opsBytes_append, ih, ← frameOps_append]
      rfl
    cases op with
    | flush => exact fl s
    | write b =>
      simp only [CW.runProg, CW.chunksProg, CW.write]
      split
      · exact fl { s with buf := s.buf ++ b }
      · exact ih _

theorem cryptoWriterProgOps_spec (A : Aead) (n0 : NonceSeq) (prog : List CWOp) :
    opsBytes (cryptoWriterProgOps A n0 prog) = encStream A n0 (CW.chunksProg [] prog) := by
  rw [cryptoWriterProgOps, opsBytes, opsBytes, CW.runProg_spec, ← List.append_assoc]
  rfl

/-- without explicit flushes the program is the write sequence of `CW.chunks` -/
theorem CW.chunksProg_writes : ∀ (ws : List Bytes) (buf : Bytes), CW.chunksProg buf (ws.map .write) = CW.chunks buf ws
  | [], buf => rfl
  | b :: bs, buf => by
    rw [List.map_cons, CW.chunksProg, CW.chunks, CW.chunksProg_writes bs, CW.chunksProg_writes bs]

theorem CW.run_eq_runProg (A : Aead) : ∀ (ws : List Bytes) (s : CW), CW.run A s ws = CW.runProg A s (ws.map .write)
  | [], s => rfl
  | b :: bs, s => by simp only [List.map_cons, CW.run, CW.runProg, CW.run_eq_runProg A bs]

theorem CW.written_writes : ∀ ws : List Bytes, CW.written (ws.map .write) = ws.flatten
  | [] => rfl
  | b :: bs => by rw [List.map_cons, CW.written, CW.written_writes bs, List.flatten_cons]

theorem CW.chunks_spec (ws : List Bytes) (buf : Bytes) :
    (CW.chunks buf ws).flatten = buf ++ ws.flatten ∧ ∀ c ∈ CW.chunks buf ws, c ≠ [] ∧ c.length ≤ cryptoBuf := by
  have h := CW.chunksProg_spec (ws.map .write) buf
  rwa [CW.chunksProg_writes, CW.written_writes] at h

/-- what `CryptoWriter` puts on the underlying writer is the stream of the chunks it sealed -/
theorem cryptoWriterOps_spec (A : Aead) (n0 : NonceSeq) (ws : List Bytes) :
    opsBytes (cryptoWriterOps A n0 ws) = encStream A n0 (CW.chunks [] ws) := by
  rw [← CW.chunksProg_writes, ← cryptoWriterProgOps_spec, cryptoWriterOps, CW.run_eq_runProg]
  rfl

end Sfv
