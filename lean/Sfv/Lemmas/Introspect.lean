/-
  Sfv.Lemmas.Introspect — flat indexing of a well-formed result, and the invariants of `dive`.
-/
import Sfv.Model.Introspect
namespace Sfv

/-- the order in which `total_index` enumerates a result: a frame's elements up to and including the
    selected one, then everything below it, then the rest of the frame -/
def flatten : List Frame → List KeyVal
  | [] => []
  | f :: d =>
    match f.selected with
    | some s => f.keyvals.take (s + 1) ++ flatten d ++ f.keyvals.drop (s + 1)
    | none => f.keyvals

/-- what `dive` guarantees about its frames: a selection points into its frame, and only a frame with a
    selection has frames below it -/
def WfFrames : List Frame → Prop
  | [] => True
  | f :: d =>
    (match f.selected with
     | some s => s < f.keyvals.length
     | none => d = []) ∧ WfFrames d

theorem flatten_length : ∀ fs, WfFrames fs → (flatten fs).length = sumLens fs
  | [], _ => rfl
  | f :: d, ⟨h1, h2⟩ => by
    have ih : (flatten d).length = sumLens d := flatten_length d h2
    cases hs : f.selected with
    | none =>
      rw [hs] at h1; subst h1
      simp only [flatten, hs]
      exact (Nat.add_zero _).symm
    | some s =>
      simp only [flatten, hs, List.length_append, ih]
      rw [Nat.add_right_comm, ← List.length_append, List.take_append_drop]
      rfl

theorem getElem?_append_add {α} {A L : List α} {a : Nat} (h : A.length = a) (j : Nat) :
    (A ++ L)[a + j]? = L[j]? := by
  subst h; rw [List.getElem?_append_right (Nat.le_add_right ..), Nat.add_sub_cancel_left]

theorem not_add_lt (a b : Nat) : ¬ a + b < a := Nat.not_lt.mpr (Nat.le_add_right a b)

/-- The flat index law from any cursor: with `cur` at the first element of `fs`, `total_index_impl` finds the
    `k`-th element of the enumeration at index `cur + k`, and past the end leaves the cursor behind the last
    element.  The index is a sum so that the subtractions of the code cancel syntactically; in a frame with
    selection `s` the three stretches are `k ≤ s`, `k = s + 1 + j` in the frames below, and
    `k = s + 1 + ((flatten d).length + i)` in the rest of the frame. -/
theorem tii_spec : ∀ (fs : List Frame) (cur k : Nat), WfFrames fs →
    ∃ c, totalIndexImpl (cur + k) fs cur = (.ok ((flatten fs)[k]?), c)
      ∧ ((flatten fs)[k]? = none → c = cur + (flatten fs).length)
  | [], cur, _, _ => ⟨cur, rfl, fun _ => rfl⟩
  | f :: d, cur, k, ⟨h1, h2⟩ => by
    cases hs : f.selected with
    | none =>
      simp only [totalIndexImpl, hs, flatten, not_add_lt, if_false, Nat.add_sub_cancel_left]
      by_cases hlt : k < f.keyvals.length
      · simp only [hlt, if_true, List.getElem?_eq_getElem hlt]
        exact ⟨_, rfl, nofun⟩
      · simp only [hlt, if_false, List.getElem?_eq_none (Nat.le_of_not_lt hlt)]
        exact ⟨_, rfl, fun _ => rfl⟩
    | some s =>
      rw [hs] at h1
      have hs1 : s < f.keyvals.length := h1
      have hA : (f.keyvals.take (s + 1)).length = s + 1 := List.length_take_of_le hs1
      simp only [totalIndexImpl, hs, flatten, not_add_lt, if_false, Nat.add_sub_cancel_left,
        Nat.add_le_add_iff_left, List.append_assoc]
      by_cases hk : k ≤ s
      · have hlt : k < f.keyvals.length := Nat.lt_of_le_of_lt hk hs1
        simp only [hk, if_true, List.getElem?_eq_getElem hlt]
        rw [List.getElem?_append_left (hA.symm ▸ Nat.lt_succ_of_le hk : k < _),
          List.getElem?_take_of_lt (Nat.lt_succ_of_le hk), List.getElem?_eq_getElem hlt]
        exact ⟨_, rfl, nofun⟩
      · obtain ⟨j, rfl⟩ := Nat.exists_eq_add_of_le (Nat.lt_of_not_le hk)
        obtain ⟨c, hrec, hc⟩ := tii_spec d (cur + (s + 1)) j h2
        rw [Nat.add_assoc cur s 1, ← Nat.add_assoc cur (s + 1) j, getElem?_append_add hA]
        simp only [hk, if_false, hrec]
        cases hg : (flatten d)[j]? with
        | some kv =>
          obtain ⟨hj, _⟩ := List.getElem?_eq_some_iff.mp hg
          rw [List.getElem?_append_left hj, hg]
          exact ⟨_, rfl, nofun⟩
        | none =>
          obtain rfl := hc hg
          obtain ⟨i, rfl⟩ := Nat.exists_eq_add_of_le (List.getElem?_eq_none_iff.mp hg)
          rw [← Nat.add_assoc (cur + (s + 1)), getElem?_append_add rfl, List.getElem?_drop, Nat.add_comm (s + 1) i]
          simp only [not_add_lt, if_false, Nat.add_sub_cancel_left, Nat.not_lt.mpr (Nat.succ_le_of_lt hs1)]
          by_cases hi : i + (s + 1) < f.keyvals.length
          · simp only [hi, if_true, List.getElem?_eq_getElem hi]
            exact ⟨_, rfl, nofun⟩
          · simp only [hi, if_false, List.getElem?_eq_none (Nat.le_of_not_lt hi)]
            refine ⟨_, rfl, fun _ => ?_⟩
            simp only [List.length_append, hA, List.length_drop, Nat.add_assoc]

/-- the outcome is not a panic, and `P` holds of the value if there is one -/
def NoPanic {α : Type} (P : α → Prop) (r : Except NavFail α) : Prop :=
  (∀ s, r ≠ .error (.panic s)) ∧ ∀ a, r = .ok a → P a

namespace NoPanic
variable {α β γ : Type} {P : α → Prop} {Q : β → Prop}

theorem ok {a : α} (h : P a) : NoPanic P (.ok a) :=
  ⟨fun _ => nofun, fun _ e => by cases e; exact h⟩

theorem err {e : NavErr} : NoPanic P (.error (.err e)) :=
  ⟨fun _ => nofun, fun _ => nofun⟩

theorem of_ok {a : α} (h : NoPanic P (.ok a)) : P a := h.2 a rfl

/-- a failure handed on as it is (the lemma for a literal failure of the code is `.err`) -/
theorem error {e : NavFail} (h : NoPanic P (.error e)) : NoPanic Q (.error e) :=
  ⟨fun s hs => h.1 s (by cases hs; rfl), fun _ => nofun⟩

/-- an `if` of the code: each branch under its condition -/
theorem ite {c : Prop} [Decidable c] {a b : Except NavFail α} (ha : c → NoPanic P a) (hb : ¬ c → NoPanic P b) :
    NoPanic P (if c then a else b) := by
  split
  · exact ha ‹_›
  · exact hb ‹_›

/-- the same where the branches also return the path -/
theorem ite_snd {c : Prop} [Decidable c] {a b : γ × Except NavFail α} (ha : c → NoPanic P a.2)
    (hb : ¬ c → NoPanic P b.2) : NoPanic P (if c then a else b).2 :=
  apply_ite Prod.snd c a b ▸ .ite ha hb

end NoPanic

/-- loop invariant of `dive` (`ne`: the caller will pop the path if no child gets selected) -/
def LoopInv (ne : Bool) (st : Loop) : Prop :=
  (st.selected = none → st.cmd.isSome = true ∧ st.sub = [] ∧ (ne = true → st.path ≠ []))
  ∧ (∀ s, st.selected = some s → s < st.keyvals.length)
  ∧ WfFrames st.sub
  ∧ st.index = st.keyvals.length

theorem selStep_path (limit : Nat) (key : Bytes) (st : Loop) (h : st.path ≠ []) :
    (selStep limit key st).1 ≠ [] := by
  unfold selStep; split
  · exact List.append_ne_nil_of_left_ne_nil h _
  · exact h

/-- What `LoopInv` needs of the state after one more child `kv`: either this child is the selection, or
    nothing the invariant reads has changed except the path, which stays non-empty.  `noSel`, `selLeaf` and
    `selDeep`, each followed by the increment of `finish`, are instances. -/
theorem LoopInv.advance {ne : Bool} {st st' : Loop} (h : LoopInv ne st) (kv : KeyVal)
    (hkv : st'.keyvals = st.keyvals ++ [kv]) (hidx : st'.index = st.index + 1) (hsub : WfFrames st'.sub)
    (hsel : st'.selected = some st.index
      ∨ st'.selected = st.selected ∧ st'.cmd = st.cmd ∧ st'.sub = st.sub ∧ (st.path ≠ [] → st'.path ≠ [])) :
    LoopInv ne st' := by
  obtain ⟨h1, h2, _, h4⟩ := h
  have hlen : st'.keyvals.length = st.keyvals.length + 1 := by rw [hkv, List.length_append]; rfl
  refine ⟨fun hn => ?_, fun s hs => ?_, hsub, by rw [hidx, hlen, h4]⟩
  · obtain hs | ⟨hs, hc, hb, hp⟩ := hsel
    · rw [hs] at hn; cases hn
    · obtain ⟨a, b, c⟩ := h1 (hs ▸ hn)
      exact ⟨hc ▸ a, hb ▸ b, fun e => hp (c e)⟩
  · rw [hlen]
    obtain hs' | ⟨hs', _⟩ := hsel
    · rw [hs'] at hs; cases hs; rw [h4]; exact Nat.lt_succ_self _
    · exact Nat.lt_succ_of_lt (h2 s (hs' ▸ hs))

/-- `finish` only touches `dis`, `index` and `limitReached` -/
theorem finish_inv {ne : Bool} {limit : Nat} {key : Bytes} {st : Loop}
    (h : LoopInv ne { st with index := st.index + 1 }) : LoopInv ne (finish limit key st).1 := by
  unfold finish
  dsimp only
  split <;> exact h

theorem loopInit_inv (ne : Bool) (cmd : NavCmd) (path : List PathElem) (cp : Option PathElem) (sel : Option Nat)
    (h : ne = true → path ≠ []) : LoopInv ne (loopInit cmd path cp sel) :=
  ⟨fun _ => ⟨rfl, rfl, h⟩, fun _ => nofun, trivial, rfl⟩

/-- `dive` fails on a bad command without panicking, and asks for the path to be popped only after pushing -/
theorem divePre_safe (limit depth : Nat) (path : List PathElem) (cmd : NavCmd) :
    NoPanic (fun r => r.2.2.2 = true → r.1 ≠ []) (divePre limit depth path cmd) := by
  unfold divePre
  split
  · exact .ite (fun _ => .err) fun _ => .ite
      (fun _ => .ok fun _ => List.append_ne_nil_of_right_ne_nil _ (List.cons_ne_nil _ _)) fun _ => .ok nofun
  · exact .ok nofun
  · exact .ok nofun

theorem divePost_safe (ne : Bool) (st : Loop) (h : LoopInv ne st) :
    NoPanic (fun fr => WfFrames fr ∧ fr ≠ []) (divePost ne st).2 := by
  obtain ⟨h1, h2, h3, _⟩ := h
  unfold divePost
  refine .ite_snd (fun _ => .err) fun _ => .ite_snd (fun hc => ?_) fun _ => .ok ⟨⟨?_, h3⟩, List.cons_ne_nil _ _⟩
  · simp only [Bool.and_eq_true, Option.isNone_iff_eq_none] at hc
    split
    · next hr => exact absurd (List.reverse_eq_nil_iff.mp hr) ((h1 hc.2).2.2 hc.1)
    · exact .err
  · cases hs : st.selected with
    | none => exact (h1 hs).2.1
    | some s => exact h2 s hs

mutual
theorem dive_safe : ∀ (t : ITree) (limit depth : Nat) (path : List PathElem) (cmd : NavCmd),
    NoPanic (fun fr => WfFrames fr ∧ fr ≠ []) (dive limit depth t path cmd).2
  | .node kids => fun limit depth path cmd => by
    unfold dive
    have hpre := divePre_safe limit depth path cmd
    split
    next e hp => rw [hp] at hpre; exact hpre.error
    next p1 cp sel ne hp =>
      rw [hp] at hpre
      have hl := diveLoop_safe kids limit depth ne _ (loopInit_inv ne cmd p1 cp sel hpre.of_ok)
      split
      next p' e hloop => rw [hloop] at hl; exact hl.error
      next p' st hloop => rw [hloop] at hl; exact divePost_safe ne st hl.of_ok
theorem diveLoop_safe : ∀ (kids : ITreeL) (limit depth : Nat) (ne : Bool) (st : Loop), LoopInv ne st →
    NoPanic (LoopInv ne) (diveLoop limit depth kids st).2
  | .nil => fun _ _ _ _ h => .ok h
  | .cons key child rest => fun limit depth ne st h => by
    unfold diveLoop
    extract_lets p stepped
    -- the child is entered in the frame, and dived into if it is the selected one
    have hA : NoPanic (fun st' => LoopInv ne (finish limit key st').1) stepped.2 := by
      unfold stepped
      refine .ite_snd (fun hsel => .ite_snd (fun _ => ?_) fun _ =>
          .ok (finish_inv (h.advance _ rfl rfl h.2.2.1 (.inl rfl))))
        fun _ => .ok (finish_inv (h.advance _ rfl rfl h.2.2.1 (.inr ⟨rfl, rfl, rfl, selStep_path limit key st⟩)))
      simp only [isSelected, Bool.and_eq_true, Option.isNone_iff_eq_none] at hsel
      have hcmd := (h.1 hsel.1).1
      split
      next hc => rw [hc] at hcmd; cases hcmd
      next c _ =>
        have hd := dive_safe child limit (depth + 1) p.1 c
        split
        next p' e hdive => rw [hdive] at hd; exact hd.error
        next p' frames hdive =>
          rw [hdive] at hd
          exact .ok (finish_inv (h.advance _ rfl rfl hd.of_ok.1 (.inl rfl)))
    clear_value stepped
    split
    next e => exact hA.error
    next st' =>
      have hs := hA.of_ok
      split
      next s hfin => rw [hfin] at hs; exact .ok hs
      next s hfin => rw [hfin] at hs; exact diveLoop_safe rest limit depth ne s hs
end

/-- `diveLoop_safe` with `NoPanic` written out -/
theorem diveLoop_ok : ∀ (kids : ITreeL) (limit depth : Nat) (ne : Bool) (st : Loop), LoopInv ne st →
    (∀ s, (diveLoop limit depth kids st).2 ≠ .error (.panic s))
    ∧ (∀ st', (diveLoop limit depth kids st).2 = .ok st' → LoopInv ne st') :=
  diveLoop_safe

theorem navPre_safe (path : List PathElem) (cmd : NavCmd) : NoPanic (fun _ => True) (navPre path cmd) := by
  unfold navPre
  split
  · exact .ite (fun _ => .err) fun _ => .ok trivial
  · exact .ok trivial

/-- `do_introspect` never panics, and a result it returns is well formed with the reported total length -/
theorem doIntrospect_ok (limit : Nat) (t : ITree) (path : List PathElem) (cmd : NavCmd) :
    NoPanic (fun r => WfFrames r.frames ∧ r.frames ≠ [] ∧ r.totalLen = sumLens r.frames)
      (doIntrospect limit t path cmd).2 := by
  unfold doIntrospect
  have hn := navPre_safe path cmd
  split
  next e hpre => rw [hpre] at hn; exact hn.error
  next p1 _ =>
    have hd := dive_safe t limit 0 p1 cmd
    split
    next p e hdive => rw [hdive] at hd; exact hd.error
    next p frames hdive => rw [hdive] at hd; exact .ok ⟨hd.of_ok.1, hd.of_ok.2, rfl⟩

end Sfv
