/-
  Sfv.Lemmas.Abi — `verify_backward_compatible` characterised; the ledger over successive runs; what a method
  that connects has passed.
-/
import Sfv.Model.Abi
import Sfv.Lemmas.SchemaMisc
import Sfv.Lemmas.Container
namespace Sfv

def MethodL.AllP (P : Bytes → Schema → Bool → SchemaL → Prop) : MethodL → Prop
  | .nil => True
  | .cons n ret _ asy args rest => P n ret asy args ∧ MethodL.AllP P rest

def MethodL.names : MethodL → List Bytes
  | .nil => []
  | .cons n _ _ _ _ rest => n :: rest.names

def MethodL.app : MethodL → MethodL → MethodL
  | .nil, b => b
  | .cons n ret rc asy args rest, b => .cons n ret rc asy args (rest.app b)

theorem MethodL.AllP.mono {P Q : Bytes → Schema → Bool → SchemaL → Prop} : ∀ (ms : MethodL),
    (∀ n r a g, n ∈ ms.names → P n r a g → Q n r a g) → ms.AllP P → ms.AllP Q
  | .nil, _, _ => trivial
  | .cons _ _ _ _ _ rest, hpq, h =>
    ⟨hpq _ _ _ _ (List.mem_cons_self ..) h.1, mono rest (fun n r a g hn => hpq n r a g (List.mem_cons_of_mem _ hn)) h.2⟩

/-- what `verify_backward_compatible` demands of the new definition for one recorded method -/
def Kept (retPos : Option Bool) (newMs : MethodL) (rp : Bool) (n : Bytes) (ret : Schema) (asy : Bool) (args : SchemaL) : Prop :=
  ∃ sig, findMethod newMs n = some sig ∧ sig.isAsync = asy ∧ sig.args.length = args.length
    ∧ diff sig.ret ret (retPos.getD rp) = .same ∧ diffArgs sig.args args rp = .same

theorem kept_iff_of_find {retPos : Option Bool} {newMs : MethodL} {rp : Bool} {n : Bytes} {ret : Schema} {asy : Bool}
    {args : SchemaL} {sig : MethodSig} (hf : findMethod newMs n = some sig) :
    Kept retPos newMs rp n ret asy args ↔ sig.isAsync = asy ∧ sig.args.length = args.length
      ∧ diff sig.ret ret (retPos.getD rp) = .same ∧ diffArgs sig.args args rp = .same := by
  simp only [Kept, hf, Option.some.injEq, exists_eq_left']

theorem vbc_andThen_ok {a b : VbcR} : a.andThen b = .ok ↔ a = .ok ∧ b = .ok := by
  cases a <;> cases b <;> simp [VbcR.andThen]

theorem ofDiff_ok {d : DiffR} : VbcR.ofDiff d = .ok ↔ d = .same := by
  cases d <;> simp [VbcR.ofDiff]

/-- acceptance, characterised: every recorded method still exists under its name, with the same async flag,
    the same number of arguments, and no differing return or argument type -/
theorem verifyMethods_ok_iff (retPos : Option Bool) (newMs : MethodL) (rp : Bool) : ∀ (oldMs : MethodL),
    verifyMethods retPos newMs oldMs rp = .ok ↔ oldMs.AllP (Kept retPos newMs rp)
  | .nil => by simp [verifyMethods, MethodL.AllP]
  | .cons n ret rc asy args rest => by
    simp only [verifyMethods, MethodL.AllP, ← verifyMethods_ok_iff retPos newMs rp rest]
    cases hf : findMethod newMs n with
    | none => simp [Kept, hf]
    | some sig =>
      simp only [kept_iff_of_find hf, ite_eq_iff_of_ne (a := VbcR.err) (b := .ok) nofun, vbc_andThen_ok, ofDiff_ok,
        Decidable.not_not, and_assoc]

/-- acceptance looks at the new definition only through the methods it finds under the recorded names -/
theorem verifyMethods_mono {retPos : Option Bool} {newMs newMs' oldMs : MethodL} {rp : Bool}
    (hf : ∀ n ∈ oldMs.names, ∀ sig, findMethod newMs n = some sig → findMethod newMs' n = some sig)
    (h : verifyMethods retPos newMs oldMs rp = .ok) : verifyMethods retPos newMs' oldMs rp = .ok := by
  rw [verifyMethods_ok_iff] at h ⊢
  exact h.mono oldMs fun n _ _ _ hn ⟨sig, h1, h2⟩ => ⟨sig, hf n hn sig h1, h2⟩

/-! ### reflexivity: an unchanged definition is accepted -/

def dataSL : SchemaL → Bool
  | .nil => true
  | .cons s rest => dataS s && dataSL rest

/-- methods whose return and argument types are plain data -/
def dataM : MethodL → Bool
  | .nil => true
  | .cons _ ret _ _ args rest => dataS ret && dataSL args && dataM rest

/-- a return type: plain data, or the schema `future` of plain data (what an async method returns,
    Rust `Pin<Box<dyn Future>>`) -/
def plainRet : Schema → Bool
  | .future (.mk _ ms _ _) _ _ _ => dataM ms && decide ms.names.Nodup
  | s => dataS s

def plainM : MethodL → Bool
  | .nil => true
  | .cons _ ret _ _ args rest => plainRet ret && dataSL args && plainM rest

theorem diffArgs_refl : ∀ (l : SchemaL) (rp : Bool), dataSL l = true → diffArgs l l rp = .same
  | .nil, _, _ => by simp [diffArgs]
  | .cons s rest, rp, h => by
    simp only [dataSL, Bool.and_eq_true] at h
    simp only [diffArgs, diff_refl_data s rp h.1, diffArgs_refl rest rp h.2, DiffR.andThen]

theorem findMethod_cons_of_not_mem {n : Bytes} (ret : Schema) (rc : Nat) (asy : Bool) (args : SchemaL) {rest : MethodL}
    (hn : n ∉ rest.names) : ∀ n' ∈ rest.names, findMethod (.cons n ret rc asy args rest) n' = findMethod rest n' :=
  fun n' hn' => if_neg fun (e : n = n') => hn (e ▸ hn')

theorem findMethodArgs_eq : ∀ (ms : MethodL) (n : Bytes), findMethodArgs ms n = (findMethod ms n).map (·.args)
  | .nil, _ => rfl
  | .cons m _ _ _ _ rest, n => by
    simp only [findMethodArgs, findMethod, findMethodArgs_eq rest n]
    split <;> rfl

theorem findMethodRet_eq : ∀ (ms : MethodL) (n : Bytes), findMethodRet ms n = (findMethod ms n).map (·.ret)
  | .nil, _ => rfl
  | .cons m _ _ _ _ rest, n => by
    simp only [findMethodRet, findMethod, findMethodRet_eq rest n]
    split <;> rfl

/-- `diff_abi_def` looks at the other definition only under the names of the methods it walks over -/
theorem diffMethods_congr {mb mb' : MethodL} (rp : Bool) : ∀ (ms : MethodL),
    (∀ n ∈ ms.names, findMethod mb n = findMethod mb' n) → diffMethods ms mb rp = diffMethods ms mb' rp
  | .nil, _ => by simp [diffMethods]
  | .cons n _ _ _ _ rest, h => by
    simp only [diffMethods, findMethodArgs_eq, findMethodRet_eq, h n (List.mem_cons_self ..),
      diffMethods_congr rp rest fun n' hn' => h n' (List.mem_cons_of_mem _ hn')]

/-- `diff_abi_def` of a definition with itself, method names distinct -/
theorem diffMethods_refl (rp : Bool) : ∀ (ms : MethodL), dataM ms = true → ms.names.Nodup → diffMethods ms ms rp = .same
  | .nil, _, _ => by simp [diffMethods]
  | .cons n ret rc asy args rest, hd, hn => by
    simp only [dataM, Bool.and_eq_true] at hd
    simp only [MethodL.names, List.nodup_cons] at hn
    rw [diffMethods, diffMethods_congr rp rest (findMethod_cons_of_not_mem ret rc asy args hn.1),
      diffMethods_refl rp rest hd.2 hn.2]
    simp [findMethodArgs, findMethodRet, diffArgs_refl args rp hd.1.2, diff_refl_data ret true hd.1.1, DiffR.andThen]

theorem diff_refl_plainRet (s : Schema) (h : plainRet s = true) : diff s s true = .same := by
  unfold plainRet at h
  split at h
  · simp only [Bool.and_eq_true, decide_eq_true_eq] at h
    simp only [diff, Bool.not_true, Bool.false_eq_true, if_false, Bool.and_not_self, Bool.or_self, diffDef]
    exact diffMethods_refl true _ h.1 h.2
  · exact diff_refl_data s true h

/-- `hpos`: return values have to be compared in return position, or a future return type makes `diff_schema`
    panic (`panicFuture`) instead of answering.  The code passes `Generated.vbcReturnPosition = some true`. -/
theorem verifyMethods_refl (retPos : Option Bool) (rp : Bool) (hpos : retPos.getD rp = true) : ∀ (ms : MethodL),
    plainM ms = true → ms.names.Nodup → verifyMethods retPos ms ms rp = .ok
  | .nil, _, _ => rfl
  | .cons n ret rc asy args rest, hp, hn => by
    simp only [plainM, Bool.and_eq_true] at hp
    simp only [MethodL.names, List.nodup_cons] at hn
    have ht : verifyMethods retPos (.cons n ret rc asy args rest) rest rp = .ok :=
      verifyMethods_mono (fun n' hn' sig h => (findMethod_cons_of_not_mem ret rc asy args hn.1 n' hn').trans h)
        (verifyMethods_refl retPos rp hpos rest hp.2 hn.2)
    simp [verifyMethods, findMethod, hpos, diff_refl_plainRet ret hp.1.1, diffArgs_refl args rp hp.1.2, ht, VbcR.ofDiff,
      VbcR.andThen]

/-- an interface definition in which every method has a distinct name, plain argument types, and returns plain
    data or a future of plain data -/
def plainDef : TraitDef → Bool
  | .mk _ ms _ _ => plainM ms && decide ms.names.Nodup

/-- between definitions with the same `Sync`/`Send` flags only the methods are compared -/
theorem vbc_same_flags (retPos : Option Bool) (name name' : Bytes) (newMs oldMs : MethodL) (sync send rp : Bool) :
    verifyBackwardCompatible retPos (.mk name newMs sync send) (.mk name' oldMs sync send) rp
      = verifyMethods retPos newMs oldMs rp := by
  cases rp <;> cases sync <;> cases send <;> rfl

theorem vbc_refl (retPos : Option Bool) (d : TraitDef) (rp : Bool) (hpos : retPos.getD rp = true)
    (h : plainDef d = true) : verifyBackwardCompatible retPos d d rp = .ok := by
  cases d with
  | mk name ms sync send =>
    simp only [plainDef, Bool.and_eq_true, decide_eq_true_eq] at h
    rw [vbc_same_flags]
    exact verifyMethods_refl retPos rp hpos ms h.1 h.2

/-- `h2`: a definition written in a format below 2 comes back without receivers and async flags (`normD`) -/
theorem decDefFile_encDefFile (cfg : Cfg) (fv memVer : Nat) (d : TraitDef) (h2 : 2 ≤ fv) (hle : fv ≤ memVer)
    (h32 : fv < 2 ^ 32) (hw : wfD cfg d = true) : decDefFile cfg memVer (encDefFile fv d) = some d := by
  unfold decDefFile encDefFile
  rw [decHeader_encHeader { lib := currentLibVersion, ver := fv, compressed := false } memVer (encDef fv d)
    (Nat.le_refl _) hle h32]
  simp only [Bool.false_eq_true, if_false]
  have := def_rt cfg fv d ((encDef fv d).length + 2) [] hw (by have := sizeD_le_enc fv d; omega)
  rw [List.append_nil] at this
  rw [this, normD_ge2 fv h2]

/-- the files a first run writes for versions `v0, …, v0 + n - 1`, in format 2 (`Generated.ledgerSaveVersion`) -/
def newFiles (defs : Nat → TraitDef) (v0 : Nat) : Nat → List (Nat × Bytes)
  | 0 => []
  | n + 1 => (v0, encDefFile 2 (defs v0)) :: newFiles defs (v0 + 1) n

theorem lookup_newFiles (defs : Nat → TraitDef) : ∀ (n v0 v : Nat),
    (newFiles defs v0 n).lookup v = if v0 ≤ v ∧ v < v0 + n then some (encDefFile 2 (defs v)) else none
  | 0, v0, v => by simp [newFiles]
  | n + 1, v0, v => by
    rw [newFiles, List.lookup_cons, lookup_newFiles defs n (v0 + 1) v]
    by_cases e : v = v0
    · subst e; simp
    · rw [beq_eq_false_iff_ne.mpr e]
      exact ite_cond_congr (propext (by omega))

/-- a run from version `v0` on over a directory that has none of these versions: each is recorded, nothing is compared -/
theorem ledgerRun_fresh (cfg : Cfg) (retPos : Option Bool) (fvLoad : Nat) (defs : Nat → TraitDef) :
    ∀ (n v0 : Nat) (files : List (Nat × Bytes)), (∀ v, v0 ≤ v → files.lookup v = none) →
    ledgerRun cfg retPos 2 fvLoad defs n v0 files = (files ++ newFiles defs v0 n, .ok)
  | 0, v0, files, _ => by rw [ledgerRun, newFiles, List.append_nil]
  | n + 1, v0, files, h => by
    simp only [ledgerRun, h v0 (Nat.le_refl _), newFiles]
    rw [ledgerRun_fresh cfg retPos fvLoad defs n (v0 + 1), List.append_assoc, List.singleton_append]
    intro v hv
    rw [List.lookup_append, h v (Nat.le_of_succ_le hv), List.lookup_cons, beq_eq_false_iff_ne.mpr (Nat.ne_of_gt hv)]
    rfl

/-- a run over a directory that records the versions below `k` as they are and has none of the later ones:
    accepted; the recorded files stay, the `m` new versions are recorded.  `v0` is the version the run has reached,
    `n` the number of recorded versions still to compare; what is assumed of the directory does not move with them.
    The ledger compares with `rp = false`, so `verifyMethods_refl` needs the return position `some true`; the files
    are in format 2 (`newFiles`). -/
theorem ledgerRun_extend (cfg : Cfg) (fvLoad : Nat) (hl : 2 ≤ fvLoad) (defs : Nat → TraitDef) (k m : Nat)
    (files : List (Nat × Bytes))
    (hr : ∀ v < k, files.lookup v = some (encDefFile 2 (defs v)) ∧ wfD cfg (defs v) = true ∧ plainDef (defs v) = true)
    (hf : ∀ v, k ≤ v → files.lookup v = none) :
    ∀ (n v0 : Nat), v0 + n = k →
    ledgerRun cfg (some true) 2 fvLoad defs (n + m) v0 files = (files ++ newFiles defs k m, .ok)
  | 0, v0, h => by
    cases h
    rw [Nat.zero_add]
    exact ledgerRun_fresh cfg (some true) fvLoad defs m v0 files hf
  | n + 1, v0, h => by
    obtain ⟨h1, h2, h3⟩ := hr v0 (h ▸ Nat.lt_add_of_pos_right (Nat.succ_pos n))
    rw [Nat.add_right_comm, ledgerRun]
    simp only [h1, decDefFile_encDefFile cfg 2 fvLoad _ (Nat.le_refl _) hl (by decide) h2, vbc_refl (some true) _ false rfl h3]
    exact ledgerRun_extend cfg fvLoad hl defs k m files hr hf n (v0 + 1) ((Nat.add_right_comm v0 1 n).trans h)

/-- a run after one that recorded versions `0 … k - 1` of the same definitions: accepted, `m` new versions recorded -/
theorem ledgerRun_rerun (cfg : Cfg) (fvLoad : Nat) (hl : 2 ≤ fvLoad) (defs : Nat → TraitDef) (k m : Nat)
    (hw : ∀ v < k, wfD cfg (defs v) = true ∧ plainDef (defs v) = true) :
    ledgerRun cfg (some true) 2 fvLoad defs (k + m) 0 (newFiles defs 0 k)
      = (newFiles defs 0 k ++ newFiles defs k m, .ok) :=
  ledgerRun_extend cfg fvLoad hl defs k m (newFiles defs 0 k)
    (fun v hv => ⟨by rw [lookup_newFiles, if_pos ⟨Nat.zero_le v, (Nat.zero_add k).symm ▸ hv⟩], hw v hv⟩)
    (fun v hv => by rw [lookup_newFiles, if_neg fun h => Nat.not_le_of_lt h.2 ((Nat.zero_add k).symm ▸ hv)])
    k 0 (Nat.zero_add k)

/-! ### compatible evolution: methods may be added -/

theorem findMethod_app_left : ∀ (a b : MethodL) (n : Bytes) (sig : MethodSig),
    findMethod a n = some sig → findMethod (a.app b) n = some sig
  | .nil, _, _, _, h => nomatch h
  | .cons m ret rc asy args rest, b, n, sig, h => by
    simp only [findMethod, MethodL.app] at h ⊢
    split at h
    · rwa [if_pos ‹_›]
    · rw [if_neg ‹_›]
      exact findMethod_app_left rest b n sig h

/-- methods added behind the recorded ones do not disturb acceptance -/
theorem verifyMethods_app (retPos : Option Bool) (newMs extra oldMs : MethodL) (rp : Bool)
    (h : verifyMethods retPos newMs oldMs rp = .ok) : verifyMethods retPos (newMs.app extra) oldMs rp = .ok :=
  verifyMethods_mono (fun n _ => findMethod_app_left newMs extra n) h

/-- A method the implementation knows connects only if both sides describe it at the effective version, the four
    descriptions agree on the number of arguments (at most 64), the effective return types do not differ and the
    argument loop succeeds; it is then listed under the implementation's method number with the loop's mask. -/
theorem anaMethod_ok_inv {retPos : Option Bool} {callerEff calleeEff calleeNative : MethodL} {name : Bytes}
    {sig ceeN : MethodSig} {k : Nat} {m : ConnMethod} (hi : methodIndex calleeNative name 0 = some k)
    (hn : findMethod calleeNative name = some ceeN)
    (h : anaMethod retPos callerEff calleeEff calleeNative name sig = .ok m) :
    ∃ ceeE cerE, findMethod calleeEff name = some ceeE ∧ findMethod callerEff name = some cerE
      ∧ sig.args.length = ceeN.args.length ∧ sig.args.length = cerE.args.length ∧ sig.args.length = ceeE.args.length
      ∧ sig.args.length ≤ 64 ∧ diff cerE.ret ceeE.ret true = .same
      ∧ ∃ mask, anaArgs retPos cerE.args ceeE.args sig.args ceeN.args 0 0 = .ok mask
        ∧ m = { name := name, calleeNum := some k, mask := mask } := by
  revert h
  -- one case per exit of `anaMethod`: ten errors, the connected method, the method the implementation lacks
  fun_cases anaMethod retPos callerEff calleeEff calleeNative name sig
  case case11 k' ceeN' hn' hi' ceeE he cerE hc h1 h2 h3 h4 hd mask hm _ _ =>
    rintro ⟨⟩
    cases hn.symm.trans hn'
    cases hi.symm.trans hi'
    exact ⟨ceeE, cerE, he, hc, Decidable.of_not_not h1, Decidable.of_not_not h2, Decidable.of_not_not h3,
      Nat.le_of_not_lt h4, hd, mask, hm, rfl⟩
  case case12 hno => exact (hno k ceeN hi hn).elim
  all_goals nofun

end Sfv
