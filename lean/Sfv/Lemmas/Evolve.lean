import Sfv.Model.Evolve
import Sfv.Lemmas.Ty
import Sfv.Lemmas.RoundTrip
namespace Sfv

/-! ### `encExt` transports encodings -/

/- By rule induction on the encoding; `encExt` relates a grammar only to one with the same head constructor, so
   every other shape of the right-hand grammar is refuted by evaluating `encExt`. -/
theorem enc_ext_all :
    (∀ a v bs, enc a v = some bs → ∀ b, encExt a b = true → enc b v = some bs)
    ∧ (∀ alts i v bs, encAlt alts i v = some bs →
        ∀ alts', encExtPrefix alts alts' = true → encAlt alts' i v = some bs)
    ∧ (∀ ts l bs, encProd ts l = some bs → ∀ ts', encExtL ts ts' = true → encProd ts' l = some bs)
    ∧ (∀ t l bs, encAll t l = some bs → ∀ t', encExt t t' = true → encAll t' l = some bs) :=
  enc_induct
    (fixed := fun k n hn b he => by
      cases b with
      | fixed k' => simp only [encExt, beq_iff_eq] at he; simp only [enc, ← he, hn, if_true]
      | _ => cases he)
    (bool := fun n hn b he => by
      cases b with
      | bool => simp only [enc, hn, if_true]
      | _ => cases he)
    (char := fun n hn b he => by
      cases b with
      | char => simp only [enc, hn, if_true]
      | _ => cases he)
    (str := fun cap s hv hlen hcap b he => by
      cases b with
      | str cap' =>
        simp only [encExt, beq_iff_eq] at he
        simp [enc, ← he, hv, hlen, hcap]
      | _ => cases he)
    (seq := fun m t l bs hlen hcap _ ih b he => by
      cases b with
      | seq m' t' =>
        simp only [encExt, Bool.and_eq_true, beq_iff_eq] at he
        simp [enc, ← he.1, hlen, hcap, ih t' he.2]
      | _ => cases he)
    (optNone := fun t b he => by
      cases b with
      | opt t' => simp only [enc]
      | _ => cases he)
    (optSome := fun t v bs _ ih b he => by
      cases b with
      | opt t' => simp only [enc, ih t' he, Option.map_some]
      | _ => cases he)
    (resOk := fun a1 a2 v bs _ ih b he => by
      cases b with
      | res b1 b2 =>
        simp only [encExt, Bool.and_eq_true] at he
        simp only [enc, ih b1 he.1, Option.map_some]
      | _ => cases he)
    (resErr := fun a1 a2 v bs _ ih b he => by
      cases b with
      | res b1 b2 =>
        simp only [encExt, Bool.and_eq_true] at he
        simp only [enc, ih b2 he.2, Option.map_some]
      | _ => cases he)
    (prod := fun ts l bs _ ih b he => by
      cases b with
      | prod ts' => simp only [enc, ih ts' he]
      | _ => cases he)
    (rep := fun bulk t l bs _ ih b he => by
      cases b with
      | rep n' bulk' t' =>
        simp only [encExt, Bool.and_eq_true, beq_iff_eq] at he
        simp only [enc, ← he.1, if_true, ih t' he.2]
      | _ => cases he)
    (tagged := fun w alts i v bs hi _ ih b he => by
      cases b with
      | tagged w' alts' =>
        simp only [encExt, Bool.and_eq_true, beq_iff_eq] at he
        simp only [enc, ← he.1, hi, if_true, ih alts' he.2, Option.map_some]
      | _ => cases he)
    (canary := fun b he => by
      cases b with
      | canary => simp only [enc]
      | _ => cases he)
    (sysTime := fun n hn hc b he => by
      cases b with
      | sysTime => simp only [enc, hn, hc, and_self, if_true]
      | _ => cases he)
    (altHere := fun t ts v bs _ ih alts' he => by
      cases alts' with
      | nil => cases he
      | cons t' ts' =>
        simp only [encExtPrefix, Bool.and_eq_true] at he
        simp only [encAlt, ih t' he.1])
    (altNext := fun t ts i v bs _ ih alts' he => by
      cases alts' with
      | nil => cases he
      | cons t' ts' =>
        simp only [encExtPrefix, Bool.and_eq_true] at he
        simp only [encAlt, ih ts' he.2])
    (prodNil := fun ts' he => by
      cases ts' with
      | nil => simp only [encProd]
      | cons _ _ => cases he)
    (prodCons := fun t ts v vs a b _ _ ih1 ih2 ts' he => by
      cases ts' with
      | nil => cases he
      | cons t' ts' =>
        simp only [encExtL, Bool.and_eq_true] at he
        simp only [encProd, ih1 t' he.1, ih2 ts' he.2, cat2])
    (allNil := fun t t' _ => by simp only [encAll])
    (allCons := fun t v vs a b _ _ ih1 ih2 t' he => by
      simp only [encAll, ih1 t' he, ih2 t' he, cat2])

theorem enc_ext : ∀ (a b : W) (v : V) (bs : Bytes), encExt a b = true → enc a v = some bs → enc b v = some bs :=
  fun a b v bs he h => enc_ext_all.1 a v bs h b he

theorem encAll_ext : ∀ (a b : W) (l : VL) (bs : Bytes), encExt a b = true → encAll a l = some bs → encAll b l = some bs :=
  fun a b l bs he h => enc_ext_all.2.2.2 a l bs h b he

theorem encProd_ext : ∀ (ts ts' : WL) (l : VL) (bs : Bytes), encExtL ts ts' = true → encProd ts l = some bs → encProd ts' l = some bs :=
  fun ts ts' l bs he h => enc_ext_all.2.2.1 ts l bs h ts' he

theorem encAlt_ext : ∀ (alts alts' : WL) (i : Nat) (x : V) (bs : Bytes),
    encExtPrefix alts alts' = true → encAlt alts i x = some bs → encAlt alts' i x = some bs :=
  fun alts alts' i x bs he h => enc_ext_all.2.1 alts i x bs h alts' he

/-- What `S` saved at version `i` loads in `R` whenever the grammar `R` reads at `i` extends the one `S` wrote,
    as `fill` of the saved wire value and consuming exactly the bytes written. -/
theorem load_save (cfg : Cfg) (env : UserFns) (S R : Ty) (i : Nat) (x wv : V) (bs r : Bytes)
    (hext : encExt (saveWire S i) (wireOf R i) = true)
    (hp : proj S i x = .ok wv) (hs : save S i x = .ok bs)
    (hw : wfW (wireOf R i) = true) (hl : lim cfg (wireOf R i) wv = true) :
    load cfg env R i (bs ++ r) = .ok (fill env R i wv, r) := by
  obtain ⟨wv', hp', he⟩ := save_ok hs
  cases hp.symm.trans hp'
  unfold load
  rw [rt cfg (wireOf R i) wv false bs r (enc_ext _ _ wv bs hext he) hw hl]

mutual
theorem encExt_refl : ∀ (w : W), encExt w w = true
  | .fixed _ | .str _ => beq_self_eq_true _
  | .bool | .char | .canary | .sysTime => rfl
  | .seq _ t | .rep _ _ t => by dsimp only [encExt]; rw [encExt_refl t, beq_self_eq_true]; rfl
  | .opt t => encExt_refl t
  | .res a b => by dsimp only [encExt]; rw [encExt_refl a, encExt_refl b]; rfl
  | .prod ts => encExtL_refl ts
  | .tagged _ alts => by dsimp only [encExt]; rw [encExtPrefix_refl alts, beq_self_eq_true]; rfl
theorem encExtL_refl : ∀ (ts : WL), encExtL ts ts = true
  | .nil => rfl
  | .cons t ts => by dsimp only [encExtL]; rw [encExt_refl t, encExtL_refl ts]; rfl
theorem encExtPrefix_refl : ∀ (ts : WL), encExtPrefix ts ts = true
  | .nil => rfl
  | .cons t ts => by dsimp only [encExtPrefix]; rw [encExt_refl t, encExtPrefix_refl ts]; rfl
end

theorem wireFields_app (i : Nat) : ∀ (pre suf : FieldL),
    wireFields (pre.app suf) i = (wireFields pre i).app (wireFields suf i)
  | .nil, suf => rfl
  | .cons a t as fs, suf => by
    dsimp only [FieldL.app, wireFields]
    rw [wireFields_app i fs suf]
    cases a.ignore
    · cases wireAs as i
      · cases a.r.has i <;> rfl
      · rfl
    · rfl

theorem saveFields_app (i : Nat) : ∀ (pre suf : FieldL),
    saveFields (pre.app suf) i = (saveFields pre i).app (saveFields suf i)
  | .nil, suf => rfl
  | .cons a t as fs, suf => by
    dsimp only [FieldL.app, saveFields]
    rw [saveFields_app i fs suf]
    cases a.ignore
    · cases a.r.has i <;> rfl
    · rfl

/-! ### an edit inside a field list is invisible at version `i` when the edited segment reads the same at `i` -/

theorem wireFields_splice (i : Nat) (pre mid mid' suf : FieldL) (h : wireFields mid i = wireFields mid' i) :
    wireFields (pre.app (mid.app suf)) i = wireFields (pre.app (mid'.app suf)) i := by
  simp only [wireFields_app, h]

theorem saveFields_splice (i : Nat) (pre mid mid' suf : FieldL) (h : saveFields mid i = saveFields mid' i) :
    saveFields (pre.app (mid.app suf)) i = saveFields (pre.app (mid'.app suf)) i := by
  simp only [saveFields_app, h]

theorem wireVariants_app (i : Nat) : ∀ (vs more : VariantL),
    wireVariants (vs.app more) i = (wireVariants vs i).app (wireVariants more i)
  | .nil, _ => rfl
  | .cons _ _ _ _ vs, more => congrArg (WL.cons _) (wireVariants_app i vs more)

theorem encExtPrefix_app : ∀ (a b : WL), encExtPrefix a (a.app b) = true
  | .nil, b => rfl
  | .cons t ts, b => by dsimp only [WL.app, encExtPrefix]; rw [encExt_refl t, encExtPrefix_app ts b]; rfl

end Sfv
