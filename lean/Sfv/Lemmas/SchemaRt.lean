import Sfv.Model.SchemaWf
import Sfv.Lemmas.SchemaRead
namespace Sfv

theorem u8_toNat (n : Nat) (h : n < 256) : (u8 n).toNat = n := by
  simp [u8, UInt8.toNat_ofNat', Nat.mod_eq_of_lt h]

theorem wfCount_lt {cfg : Cfg} {n : Nat} (h : wfCount cfg n = true) : n < 2^64 := by
  simp [wfCount] at h; exact h.1

theorem wfCount_sane {cfg : Cfg} {n : Nat} (h : wfCount cfg n = true) :
    (cfg.sanity && decide (n > 1000000)) = false :=
  sane_of_limit (Bool.and_eq_true_iff.1 h).2

theorem readStr_enc (cfg : Cfg) (b r : Bytes) (h : wfName cfg b = true) :
    readStr cfg (encStr b ++ r) = .ok (b, r) := by
  simp only [wfName, Bool.and_eq_true] at h
  have hc : wfCount cfg b.length = true := Bool.and_eq_true_iff.2 ⟨h.1.2, h.2⟩
  unfold readStr encStr
  rw [List.append_assoc, readLE8_leBytes _ _ (wfCount_lt hc)]
  simp [wfCount_sane hc, takeN_append _ _ _ rfl, h.1.1]

theorem readOptNat_enc (o : Option Nat) (r : Bytes) (h : wfOpt o = true) :
    readOptNat (encOptNat o ++ r) = .ok (o, r) := by
  cases o with
  | none => rfl
  | some n =>
    simp only [wfOpt, decide_eq_true_eq] at h
    simp only [readOptNat, encOptNat, List.cons_append, readLE1_cons, readLE8_leBytes n r h]
    rfl

theorem readBool_enc (b : Bool) (r : Bytes) : readBool (encBool b ++ r) = .ok (b, r) := by
  cases b <;> rfl

theorem ofCode_code (l : VLayout) : VLayout.ofCode (u8 l.code).toNat = l := by
  cases l <;> rfl

theorem splitPlus_noPlus : ∀ (name rest : Bytes), noPlus name = true →
    splitPlus (name ++ rest) = (name ++ (splitPlus rest).1, (splitPlus rest).2)
  | [], rest, _ => rfl
  | c :: cs, rest, h => by
    simp only [noPlus, List.all_cons, Bool.and_eq_true, bne_iff_ne, ne_eq] at h
    simp only [List.cons_append, splitPlus, splitPlus_noPlus cs rest h.2, h.1, if_false]

theorem parseTraitName_effective (name : Bytes) (sync send : Bool) (h : noPlus name = true) :
    parseTraitName (effectiveName name sync send) = some (name, sync, send) := by
  unfold parseTraitName effectiveName
  rw [List.append_assoc, splitPlus_noPlus name _ h]
  -- each of the four suffixes is parsed by evaluation; what is left is `name ++ []`
  have e : ∀ x : Bool × Bool, some (name ++ [], x) = some (name, x) := fun _ => by rw [List.append_nil]
  cases sync <;> cases send <;> exact e _

theorem sizeS_pos (s : Schema) : 0 < sizeS s := by
  fun_cases sizeS s <;> omega

theorem u8_code (p : SPrim) : (u8 p.code).toNat = p.code :=
  u8_toNat _ (by cases p <;> simp [SPrim.code])

theorem primOfCode_str (cfg : Cfg) (v : Nat) (l : VLayout) (r : Bytes) :
    primOfCode cfg v 9 ((if v > 0 then [u8 l.code] else []) ++ r) = .ok (.str (if v > 0 then l else .unknown), r) := by
  show (if v > 0 then _ else _) = _
  by_cases hv : v > 0
  · simp only [hv, if_true, List.cons_append, List.nil_append, readLE1_cons, ofCode_code]
  · simp only [hv, if_false, List.nil_append]

/-- reading a node spends one unit of fuel; the rest has to suffice for its parts -/
theorem fuel_node {a fuel : Nat} (h : 1 + a ≤ fuel) : ∃ f, fuel = f + 1 ∧ a ≤ f := by
  cases fuel with
  | zero => omega
  | succ f => exact ⟨f, rfl, by omega⟩

section
-- sealed so that `whnf` in `read_tag` stops at the first reader of the arm
attribute [local irreducible] DecR.andThen

/-- Read the tag byte the input starts with and let `whnf` select the arm of `decTagged` for it. -/
local macro "read_tag" : tactic => `(tactic| (
  rewrite [List.cons_append, decSchema_cons]
  conv => lhs; whnf))

/- Round trip of schema values through library format version `v`: reading what was written (followed
   by anything) returns the schema in the normal form of that format and leaves exactly the remainder.
   By induction along the writer; a node needs one unit of fuel more than its parts. -/
theorem schema_rt_all (cfg : Cfg) (v : Nat) :
    (∀ s fuel r, wfS cfg s = true → sizeS s ≤ fuel → decSchema cfg v fuel (encSchema v s ++ r) = .ok (normS v s, r))
    ∧ (∀ d fuel r, wfD cfg d = true → sizeD d ≤ fuel → decDef cfg v fuel (encDef v d ++ r) = .ok (normD v d, r))
    ∧ (∀ ms fuel r, wfM cfg ms = true → sizeM ms ≤ fuel →
        decMethods cfg v fuel ms.length (encMethods v ms ++ r) = .ok (normM v ms, r))
    ∧ (∀ l fuel r, wfSL cfg l = true → sizeSL l ≤ fuel →
        decSchemaL cfg v fuel l.length (encSchemaL v l ++ r) = .ok (normSL v l, r))
    ∧ (∀ vs fuel r, wfSV cfg vs = true → sizeSV vs ≤ fuel →
        decVariants cfg v fuel vs.length (encVariants v vs ++ r) = .ok (normSV v vs, r))
    ∧ (∀ fs fuel r, wfSF cfg fs = true → sizeSF fs ≤ fuel →
        decFields cfg v fuel fs.length (encFields v fs ++ r) = .ok (normSF v fs, r)) := by
  refine encSchema.mutual_induct_unfolding v
    (motive_1 := fun s bs => ∀ fuel r, wfS cfg s = true → sizeS s ≤ fuel →
      decSchema cfg v fuel (bs ++ r) = .ok (normS v s, r))
    (motive_2 := fun d bs => ∀ fuel r, wfD cfg d = true → sizeD d ≤ fuel →
      decDef cfg v fuel (bs ++ r) = .ok (normD v d, r))
    (motive_3 := fun ms bs => ∀ fuel r, wfM cfg ms = true → sizeM ms ≤ fuel →
      decMethods cfg v fuel ms.length (bs ++ r) = .ok (normM v ms, r))
    (motive_4 := fun l bs => ∀ fuel r, wfSL cfg l = true → sizeSL l ≤ fuel →
      decSchemaL cfg v fuel l.length (bs ++ r) = .ok (normSL v l, r))
    (motive_5 := fun vs bs => ∀ fuel r, wfSV cfg vs = true → sizeSV vs ≤ fuel →
      decVariants cfg v fuel vs.length (bs ++ r) = .ok (normSV v vs, r))
    (motive_6 := fun fs bs => ∀ fuel r, wfSF cfg fs = true → sizeSF fs ≤ fuel →
      decFields cfg v fuel fs.length (bs ++ r) = .ok (normSF v fs, r))
    ?struct ?enum ?prim ?vector ?undefined ?zeroSize ?option ?array ?custom ?boxed ?fnClosure ?slice ?str ?reference
    ?trait ?recursion ?stdIoError ?future ?uninitSlice ?utcTimestamp ?fieldsNil ?fieldsCons ?variantsNil
    ?variantsCons ?defn ?methodsNil ?methodsCons ?listNil ?listCons
  case struct =>
    intro name size align fs ih fuel r hw hf
    obtain ⟨f, rfl, hp⟩ := fuel_node hf
    simp only [wfS, Bool.and_eq_true, decide_eq_true_eq] at hw
    have ih := ih f r hw.2 hp
    read_tag
    simp only [List.append_assoc, readStr_enc, readLE8_leBytes, hw, DecR.ok_andThen]
    by_cases hv : v > 0
    · simp only [hv, if_true, List.append_assoc, readOptNat_enc, hw, ih, normS, DecR.ok_andThen]
    · simp only [hv, if_false, List.nil_append, ih, normS, DecR.ok_andThen]
  case enum =>
    intro name vs dsize expl size align ih fuel r hw hf
    obtain ⟨f, rfl, hp⟩ := fuel_node hf
    simp only [wfS, Bool.and_eq_true, decide_eq_true_eq] at hw
    have ih := fun r => ih f r hw.2 hp
    read_tag
    simp only [List.append_assoc, readStr_enc, readLE8_leBytes, hw, ih, DecR.ok_andThen]
    by_cases hv : v > 0
    · simp only [hv, if_true, List.cons_append, List.nil_append, List.append_assoc, readLE1_cons, u8_toNat, readBool_enc,
        readOptNat_enc, hw, normS, DecR.ok_andThen]
    · simp only [hv, if_false, List.nil_append, normS]
  case prim =>
    intro p fuel r _ hf
    obtain ⟨f, rfl, _⟩ := fuel_node (a := 0) hf
    read_tag
    simp only [List.cons_append, readLE1_cons, u8_code, DecR.ok_andThen]
    cases p with
    | str l => simp only [SPrim.code, primOfCode_str, normS, DecR.ok_andThen]
    | _ => exact DecR.ok_andThen _ _ _
  case vector =>
    intro t l ih fuel r hw hf
    obtain ⟨f, rfl, hp⟩ := fuel_node hf
    read_tag
    rw [List.append_assoc, ih f _ hw hp, DecR.ok_andThen]
    by_cases hv : v > 0
    · simp only [hv, if_true, List.cons_append, List.nil_append, readLE1_cons, ofCode_code, normS, DecR.ok_andThen]
    · simp only [hv, if_false, List.nil_append, normS]
  case undefined | zeroSize | str | stdIoError | uninitSlice | utcTimestamp =>
    intro fuel r _ hf
    obtain ⟨f, rfl, _⟩ := fuel_node (a := 0) hf
    read_tag
    rfl
  case option | boxed | slice | reference =>
    intro t ih fuel r hw hf
    obtain ⟨f, rfl, hp⟩ := fuel_node hf
    read_tag
    rw [ih f r hw hp, DecR.ok_andThen]
    rfl
  case array =>
    intro t n ih fuel r hw hf
    obtain ⟨f, rfl, hp⟩ := fuel_node hf
    simp only [wfS, Bool.and_eq_true, decide_eq_true_eq] at hw
    read_tag
    rw [List.append_assoc, readLE8_leBytes _ _ hw.1, DecR.ok_andThen, ih f r hw.2 hp, DecR.ok_andThen]
    rfl
  case custom =>
    intro s fuel r hw hf
    obtain ⟨f, rfl, _⟩ := fuel_node (a := 0) hf
    read_tag
    rw [readStr_enc cfg s r hw, DecR.ok_andThen]
    rfl
  case fnClosure | trait =>
    intro m d ih fuel r hw hf
    obtain ⟨f, rfl, hp⟩ := fuel_node hf
    read_tag
    rw [List.append_assoc, readBool_enc, DecR.ok_andThen, ih f r hw hp, DecR.ok_andThen]
    rfl
  case recursion =>
    intro n fuel r hw hf
    obtain ⟨f, rfl, _⟩ := fuel_node (a := 0) hf
    read_tag
    rw [readLE8_leBytes _ _ (of_decide_eq_true hw), DecR.ok_andThen]
    rfl
  case future =>
    intro d a b c ih fuel r hw hf
    obtain ⟨f, rfl, hp⟩ := fuel_node hf
    read_tag
    rw [List.cons_append, readLE1_cons, DecR.ok_andThen, ih f r hw hp, DecR.ok_andThen]
    cases a <;> cases b <;> cases c <;> rfl
  case fieldsNil =>
    intro fuel r _ _
    unfold decFields
    rfl
  case fieldsCons =>
    intro name t off rest iht ihr fuel r hw hf
    simp only [wfSF, Bool.and_eq_true] at hw
    simp only [sizeSF, Nat.add_assoc] at hf
    obtain ⟨f, rfl, hp⟩ := fuel_node hf
    have iht := fun r => iht f r hw.1.1.2 (Nat.le_of_add_right_le hp)
    have ihr := ihr f r hw.2 (Nat.le_of_add_left_le hp)
    simp only [SFieldL.length, decFields_succ, List.append_assoc, readStr_enc, hw, iht, DecR.ok_andThen]
    by_cases hv : v > 0
    · simp only [hv, if_true, readOptNat_enc, hw, ihr, normSF, DecR.ok_andThen]
    · simp only [hv, if_false, List.nil_append, ihr, normSF, DecR.ok_andThen]
  case variantsNil =>
    intro fuel r _ _
    unfold decVariants
    rfl
  case variantsCons =>
    intro name discr fs rest ihf ihr fuel r hw hf
    simp only [wfSV, Bool.and_eq_true, decide_eq_true_eq] at hw
    simp only [sizeSV, Nat.add_assoc] at hf
    obtain ⟨f, rfl, hp⟩ := fuel_node hf
    have ihf := fun r => ihf f r hw.1.2 (Nat.le_of_add_right_le hp)
    have ihr := ihr f r hw.2 (Nat.le_of_add_left_le hp)
    simp only [SVariantL.length, decVariants_succ, List.append_assoc, List.cons_append, List.nil_append,
      readStr_enc, readLE1_cons, u8_toNat, readLE8_leBytes, hw, ihf, ihr, normSV, DecR.ok_andThen]
  case defn =>
    intro name ms sync send ih fuel r hw hf
    obtain ⟨f, rfl, hp⟩ := fuel_node hf
    simp only [wfD, Bool.and_eq_true] at hw
    simp only [decDef_succ, List.append_assoc, readStr_enc, parseTraitName_effective, readLE8_leBytes,
      wfCount_lt hw.1.2, wfCount_sane hw.1.2, hw, ih f r hw.2 hp, normD, DecR.ok_andThen]
    rfl
  case methodsNil =>
    intro fuel r _ _
    unfold decMethods
    rfl
  case methodsCons =>
    intro name ret recv isAsync args rest ihret iha ihr fuel r hw hf
    simp only [wfM, Bool.and_eq_true] at hw
    simp only [sizeM, Nat.add_assoc] at hf
    obtain ⟨f, rfl, hp⟩ := fuel_node hf
    have ihret := fun r => ihret f r hw.1.1.1.1.2 (Nat.le_of_add_right_le hp)
    have iha := fun r => iha f r hw.1.2 (Nat.le_of_add_right_le (Nat.le_of_add_left_le hp))
    have ihr := ihr f r hw.2 (Nat.le_of_add_left_le (Nat.le_of_add_left_le hp))
    have hc := hw.1.1.2
    have hrc : recv < 256 := by
      have := hw.1.1.1.2
      simp [receiverOk] at this; omega
    simp only [MethodL.length, decMethods_succ, List.append_assoc, readStr_enc, hw, ihret, DecR.ok_andThen]
    by_cases hv : v ≥ 2
    · simp only [readRecv, hv, if_true, List.cons_append, List.nil_append, readLE1_cons, u8_toNat recv hrc, hw,
        readBool_enc, readLE8_leBytes _ _ (wfCount_lt hc), wfCount_sane hc, iha, ihr, normM, DecR.ok_andThen]
      rfl
    · simp only [readRecv, hv, if_false, List.nil_append, readLE8_leBytes _ _ (wfCount_lt hc), wfCount_sane hc, iha, ihr,
        normM, DecR.ok_andThen]
      rfl
  case listNil =>
    intro fuel r _ _
    unfold decSchemaL
    rfl
  case listCons =>
    intro s rest ihs ihr fuel r hw hf
    simp only [wfSL, Bool.and_eq_true] at hw
    obtain ⟨f, rfl, hp⟩ := fuel_node hf
    have ihs := fun r => ihs f r hw.1 (Nat.max_le.1 hp).1
    have ihr := ihr f r hw.2 (Nat.max_le.1 hp).2
    simp only [SchemaL.length, decSchemaL_succ, List.append_assoc, ihs, ihr, normSL, DecR.ok_andThen]
end

theorem schema_rt (cfg : Cfg) (v : Nat) : ∀ (s : Schema) (fuel : Nat) (r : Bytes),
    wfS cfg s = true → sizeS s ≤ fuel → decSchema cfg v fuel (encSchema v s ++ r) = .ok (normS v s, r) :=
  (schema_rt_all cfg v).1

theorem fields_rt (cfg : Cfg) (v : Nat) : ∀ (fs : SFieldL) (fuel : Nat) (r : Bytes),
    wfSF cfg fs = true → sizeSF fs ≤ fuel →
    decFields cfg v fuel fs.length (encFields v fs ++ r) = .ok (normSF v fs, r) :=
  (schema_rt_all cfg v).2.2.2.2.2

theorem variants_rt (cfg : Cfg) (v : Nat) : ∀ (vs : SVariantL) (fuel : Nat) (r : Bytes),
    wfSV cfg vs = true → sizeSV vs ≤ fuel →
    decVariants cfg v fuel vs.length (encVariants v vs ++ r) = .ok (normSV v vs, r) :=
  (schema_rt_all cfg v).2.2.2.2.1

theorem def_rt (cfg : Cfg) (v : Nat) : ∀ (d : TraitDef) (fuel : Nat) (r : Bytes),
    wfD cfg d = true → sizeD d ≤ fuel → decDef cfg v fuel (encDef v d ++ r) = .ok (normD v d, r) :=
  (schema_rt_all cfg v).2.1

theorem methods_rt (cfg : Cfg) (v : Nat) : ∀ (ms : MethodL) (fuel : Nat) (r : Bytes),
    wfM cfg ms = true → sizeM ms ≤ fuel →
    decMethods cfg v fuel ms.length (encMethods v ms ++ r) = .ok (normM v ms, r) :=
  (schema_rt_all cfg v).2.2.1

theorem schemaL_rt (cfg : Cfg) (v : Nat) : ∀ (l : SchemaL) (fuel : Nat) (r : Bytes),
    wfSL cfg l = true → sizeSL l ≤ fuel →
    decSchemaL cfg v fuel l.length (encSchemaL v l ++ r) = .ok (normSL v l, r) :=
  (schema_rt_all cfg v).2.2.2.1

end Sfv
