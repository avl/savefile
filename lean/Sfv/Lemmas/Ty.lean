import Sfv.Model.Ty
namespace Sfv

theorem VerRange.has_iff {r : VerRange} {v : Nat} : r.has v = true ↔ r.lo ≤ v ∧ v ≤ r.hi := by
  simp [VerRange.has]

theorem VerRange.not_has_iff {r : VerRange} {v : Nat} : r.has v = false ↔ v < r.lo ∨ r.hi < v := by
  rw [← Bool.not_eq_true, has_iff, Decidable.not_and_iff_not_or_not, Nat.not_le, Nat.not_le]

theorem VerRange.isAll_iff {r : VerRange} : r.isAll = true ↔ r.lo = 0 ∧ r.hi = u32Max := by
  simp [VerRange.isAll]

theorem VerRange.has_close {r : VerRange} {k i : Nat} (hi : i < k) (hhi : r.hi ≥ k - 1) :
    VerRange.has ⟨r.lo, k - 1⟩ i = r.has i := by
  -- below `k` both upper bounds hold
  have h : i ≤ k - 1 := Nat.le_sub_one_of_lt hi
  unfold VerRange.has
  rw [decide_eq_true h, decide_eq_true (Nat.le_trans h hhi)]

theorem save_ok {T : Ty} {v : Nat} {x : V} {bs : Bytes} (h : save T v x = .ok bs) :
    ∃ wv, proj T v x = .ok wv ∧ enc (saveWire T v) wv = some bs := by
  unfold save at h
  split at h
  · cases h
  · next wv hp =>
    split at h
    · next b he => cases h; exact ⟨wv, hp, he⟩
    · cases h

end Sfv
