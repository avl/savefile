import Sfv.Driver.AbiIo
import Sfv.Driver.CryptoIo
import Sfv.Driver.Io
import Sfv.Driver.Main
import Sfv.Driver.Nav
import Sfv.Driver.Sexp
import Sfv.Generated.Abi
import Sfv.Generated.AbiCall
import Sfv.Generated.Introspect
import Sfv.Generated.Locks
import Sfv.Generated.StreamCalls
import Sfv.Generated.Tables
import Sfv.Lemmas.Abi
import Sfv.Lemmas.Bytes
import Sfv.Lemmas.Container
import Sfv.Lemmas.Crypto
import Sfv.Lemmas.Evolve
import Sfv.Lemmas.Faithful
import Sfv.Lemmas.Image
import Sfv.Lemmas.Introspect
import Sfv.Lemmas.Locks
import Sfv.Lemmas.Mono
import Sfv.Lemmas.Packed
import Sfv.Lemmas.PackedImage
import Sfv.Lemmas.RoundTrip
import Sfv.Lemmas.Safe
import Sfv.Lemmas.SchemaDiff
import Sfv.Lemmas.SchemaMisc
import Sfv.Lemmas.SchemaMono
import Sfv.Lemmas.SchemaRead
import Sfv.Lemmas.SchemaRt
import Sfv.Lemmas.Stream
import Sfv.Lemmas.Ty
import Sfv.Lemmas.Wire
import Sfv.Lemmas.WireRead
import Sfv.Model.Abi
import Sfv.Model.AbiCall
import Sfv.Model.Bytes
import Sfv.Model.Container
import Sfv.Model.Crypto
import Sfv.Model.Evolve
import Sfv.Model.Image
import Sfv.Model.Introspect
import Sfv.Model.IntrospectImpls
import Sfv.Model.Layout
import Sfv.Model.Locks
import Sfv.Model.RealCodec
import Sfv.Model.Schema
import Sfv.Model.SchemaDiff
import Sfv.Model.SchemaOf
import Sfv.Model.SchemaWf
import Sfv.Model.SchemaWire
import Sfv.Model.Stream
import Sfv.Model.Ty
import Sfv.Model.Wire
import Sfv.Model.WireWf
import Sfv.Pinned.Tables
import Sfv.Props.C01
import Sfv.Props.C02
import Sfv.Props.C03
import Sfv.Props.C04
import Sfv.Props.C05
import Sfv.Props.C06
import Sfv.Props.C07
import Sfv.Props.C08
import Sfv.Props.C09
import Sfv.Props.C10
import Sfv.Props.C11
import Sfv.Props.C12
import Sfv.Props.C13
import Sfv.Props.C14
import Sfv.Props.C15
import Sfv.Props.C16
import Sfv.Props.C17
import Sfv.Props.C18
import Sfv.Props.Tables
